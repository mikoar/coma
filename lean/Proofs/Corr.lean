import Props.Defs
import Coma.Corr
import Proofs.Vector

/- The arithmetic of `scipy.signal.correlate(…, mode='valid')` on two 0/1 vectors (`Coma/Corr.lean`): the entry at lag `k`
   is the overlap `dot` of the query with the reference window at `k`; twice the overlap of two bit vectors of equal length
   is at most their total label count, with equality exactly when they coincide (`Corr.overlap`), which is the normalised
   correlation being at most 1. -/
namespace Coma.Proofs

def Bits (v : List Nat) : Prop := ∀ x ∈ v, x = 0 ∨ x = 1

namespace Corr

theorem cvf_length (q : List Nat) :
    ∀ (fuel : Nat) (ref : List Nat), (corrValidFrom q fuel ref).length = fuel
  | 0, _ => rfl
  | f + 1, ref => by simp [corrValidFrom, cvf_length q f]

theorem cvf_get (q : List Nat) :
    ∀ (fuel : Nat) (ref : List Nat) (k : Nat), k < fuel →
      (corrValidFrom q fuel ref)[k]? = some (dot (ref.drop k) q)
  | 0, _, k, h => by omega
  | f + 1, ref, 0, _ => by simp [corrValidFrom]
  | f + 1, ref, k + 1, h => by
    simp only [corrValidFrom, List.getElem?_cons_succ]
    rw [cvf_get q f (ref.drop 1) k (by omega), List.drop_drop, Nat.add_comm]

theorem bits_cons {x : Nat} {xs : List Nat} : Bits (x :: xs) ↔ (x = 0 ∨ x = 1) ∧ Bits xs := by
  simp [Bits]

theorem bits_drop {l : List Nat} (h : Bits l) (k : Nat) : Bits (l.drop k) :=
  fun x hx => h x (List.mem_of_mem_drop hx)

theorem bits_take {l : List Nat} (h : Bits l) (k : Nat) : Bits (l.take k) :=
  fun x hx => h x (List.mem_of_mem_take hx)

theorem bits_reverse {l : List Nat} (h : Bits l) : Bits l.reverse :=
  fun x hx => h x (List.mem_reverse.mp hx)

theorem dot_nil_left (q : List Nat) : dot [] q = 0 := by
  cases q <;> rfl

theorem dot_nil_right (r : List Nat) : dot r [] = 0 := by
  cases r <;> rfl

theorem dot_cons (x y : Nat) (xs ys : List Nat) : dot (x :: xs) (y :: ys) = x * y + dot xs ys := rfl

theorem sumNat_cons (x : Nat) (xs : List Nat) : sumNat (x :: xs) = x + sumNat xs := rfl

theorem dot_comm : ∀ (r q : List Nat), dot r q = dot q r
  | [], q => by rw [dot_nil_left, dot_nil_right]
  | _ :: _, [] => rfl
  | x :: xs, y :: ys => by rw [dot_cons, dot_cons, dot_comm xs ys, Nat.mul_comm]

theorem dot_le_sum : ∀ (r q : List Nat), Bits r → dot r q ≤ sumNat q
  | [], q, _ => by simp [dot_nil_left]
  | _ :: _, [], _ => by simp [dot_nil_right]
  | x :: xs, y :: ys, h => by
    have ⟨hx, hxs⟩ := bits_cons.1 h
    have ih := dot_le_sum xs ys hxs
    rw [dot_cons, sumNat_cons]
    rcases hx with rfl | rfl <;> simp <;> omega

theorem dot_eq_sum : ∀ (q r : List Nat), Bits q → q.length ≤ r.length →
    (∀ j, q.getD j 0 = 1 → r.getD j 0 = 1) → dot r q = sumNat q
  | [], r, _, _, _ => by simp [dot_nil_right, sumNat]
  | y :: ys, [], _, hl, _ => by simp at hl
  | y :: ys, x :: xs, h, hl, hm => by
    have ⟨hy, hys⟩ := bits_cons.1 h
    have ih := dot_eq_sum ys xs hys (by simpa using hl) (fun j hj => by
      have := hm (j + 1) (by simpa using hj)
      simpa using this)
    rw [dot_cons, sumNat_cons, ih]
    rcases hy with rfl | rfl
    · simp
    · have : x = 1 := by simpa using hm 0 (by simp)
      subst this; rfl

theorem ones_succ (n : Nat) : ones (n + 1) = 1 :: ones n := by
  simp [ones, List.replicate_succ]

theorem ones_length (n : Nat) : (ones n).length = n := by simp [ones]

theorem dot_ones : ∀ (n : Nat) (r : List Nat), dot r (ones n) = sumNat (r.take n)
  | 0, r => by simp [ones, dot_nil_right, sumNat]
  | n + 1, [] => by simp [dot_nil_left, sumNat]
  | n + 1, x :: xs => by
    rw [ones_succ, dot_cons, List.take_succ_cons, sumNat_cons, dot_ones n xs]; simp

theorem dot_take : ∀ (q r : List Nat), dot r q = dot (r.take q.length) q
  | [], r => by simp [dot_nil_right]
  | y :: ys, [] => by simp
  | y :: ys, x :: xs => by
    rw [List.length_cons, List.take_succ_cons, dot_cons, dot_cons, ← dot_take ys xs]

theorem sumNat_drop_le : ∀ (k : Nat) (l : List Nat), sumNat (l.drop k) ≤ sumNat l
  | 0, l => by simp
  | k + 1, [] => by simp
  | k + 1, x :: xs => by
    rw [List.drop_succ_cons, sumNat_cons]
    have := sumNat_drop_le k xs
    omega

theorem overlap : ∀ (w q : List Nat), Bits w → Bits q → w.length = q.length →
    2 * dot w q ≤ sumNat w + sumNat q ∧ (2 * dot w q = sumNat w + sumNat q ↔ w = q)
  | [], [], _, _, _ => by simp [dot_nil_left, sumNat]
  | [], _ :: _, _, _, hl => by simp at hl
  | _ :: _, [], _, _, hl => by simp at hl
  | x :: xs, y :: ys, hw, hq, hl => by
    have ⟨hx, hxs⟩ := bits_cons.1 hw
    have ⟨hy, hys⟩ := bits_cons.1 hq
    have ⟨ih1, ih2⟩ := overlap xs ys hxs hys (by simpa using hl)
    rw [dot_cons, sumNat_cons, sumNat_cons, List.cons.injEq, ← ih2]
    rcases hx with rfl | rfl <;> rcases hy with rfl | rfl <;> simp <;> omega

end Corr
open Corr

theorem corrValid_length (ref q : List Nat) (h : q.length ≤ ref.length) :
    (corrValid ref q).length = ref.length - q.length + 1 := by
  rw [corrValid, if_pos h, cvf_length]

theorem corrValid_get (ref q : List Nat) (k : Nat) (hk : k + q.length ≤ ref.length) :
    (corrValid ref q)[k]? = some (dot (ref.drop k) q) := by
  have h : q.length ≤ ref.length := by omega
  rw [corrValid, if_pos h]
  exact cvf_get q _ ref k (by omega)

theorem corrValid_lag {ref q : List Nat} {k c : Nat} (h : (corrValid ref q)[k]? = some c) :
    k + q.length ≤ ref.length ∧ c = dot (ref.drop k) q := by
  have hlt := (List.getElem?_eq_some_iff.mp h).1
  by_cases hl : q.length ≤ ref.length
  · rw [corrValid_length ref q hl] at hlt
    have hk : k + q.length ≤ ref.length := by omega
    rw [corrValid_get ref q k hk] at h
    exact ⟨hk, (Option.some.inj h).symm⟩
  · rw [corrValid, if_neg hl] at hlt
    exact absurd hlt (Nat.not_lt_zero _)

theorem corr_le_sum (ref q : List Nat) (hr : Bits ref) (c : Nat) (h : c ∈ corrValid ref q) : c ≤ sumNat q := by
  obtain ⟨k, hk⟩ := List.mem_iff_getElem?.1 h
  rw [(corrValid_lag hk).2]
  exact dot_le_sum _ _ (bits_drop hr k)

theorem corr_at_match (ref q : List Nat) (hq : Bits q) (k : Nat) (hk : k + q.length ≤ ref.length)
    (hm : ∀ j, q.getD j 0 = 1 → ref.getD (k + j) 0 = 1) :
    (corrValid ref q)[k]? = some (sumNat q) := by
  rw [corrValid_get ref q k hk, dot_eq_sum q (ref.drop k) hq (by simp; omega)
    (fun j hj => by rw [getD_drop]; exact hm j hj)]

namespace Corr

theorem norm2_get (ref q : List Nat) (k : Nat) (hk : k + q.length ≤ ref.length) :
    (norm2 ref q)[k]? = some (sumNat ((ref.drop k).take q.length) + sumNat q) := by
  rw [norm2, List.getElem?_map,
    corrValid_get ref (ones q.length) k (by rw [ones_length]; exact hk), dot_ones]
  rfl

theorem normalised_get (ref q : List Nat) (k : Nat) (hk : k + q.length ≤ ref.length) :
    (normalised ref q)[k]? =
      some (2 * dot ((ref.drop k).take q.length) q,
            sumNat ((ref.drop k).take q.length) + sumNat q) := by
  rw [normalised, List.getElem?_zipWith, corrValid_get ref q k hk, norm2_get ref q k hk,
    ← dot_take]

theorem window_length (ref q : List Nat) (k : Nat) (hk : k + q.length ≤ ref.length) :
    ((ref.drop k).take q.length).length = q.length := by
  simp; omega

end Corr

theorem normalised_le_one (ref q : List Nat) (hr : Bits ref) (hq : Bits q) (x : Nat × Nat) (h : x ∈ normalised ref q) :
    x.1 ≤ x.2 := by
  obtain ⟨k, hk⟩ := List.mem_iff_getElem?.1 h
  have hlt := (List.getElem?_eq_some_iff.mp hk).1
  rw [normalised, List.length_zipWith] at hlt
  obtain ⟨hk', -⟩ := corrValid_lag (List.getElem?_eq_getElem (Nat.lt_of_lt_of_le hlt (Nat.min_le_left _ _)))
  rw [normalised_get ref q k hk'] at hk
  cases hk
  exact (overlap _ q (bits_take (bits_drop hr k) _) hq (window_length ref q k hk')).1

theorem normalised_eq_one_iff (ref q : List Nat) (hr : Bits ref) (hq : Bits q) (k : Nat) (hk : k + q.length ≤ ref.length)
    (x : Nat × Nat) (hx : (normalised ref q)[k]? = some x) :
    x.1 = x.2 ↔ (ref.drop k).take q.length = q := by
  rw [normalised_get ref q k hk] at hx
  cases hx
  exact (overlap _ q (bits_take (bits_drop hr k) _) hq (window_length ref q k hk)).2

end Coma.Proofs
