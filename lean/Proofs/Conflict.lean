import Proofs.Conflict_Slice
import Proofs.ExceptLemmas

/-
  One step of the conflict resolver.  `resolvePairB` is the search for the conflict region, the only part that can
  raise, followed by a plain function `cut` (`resolvePairB_eq`).  A step that succeeds has one of three shapes (`Step`);
  `cut` removes the left region, the right region, or a suffix of the one and a prefix of the other (`Cut`).  The region
  of a `LeftOK` left segment is a suffix of it, that of a right segment that starts with a pair a prefix, short of
  unpaired positions, so the two sides of a step can be read one at a time (`step_left`, `step_right`); what the
  property says of a step follows by cases.
-/
namespace Coma.Proofs.Conflict
open Coma.Spec

/-- what is cut once the conflict region `(Lc, Rc)` and the label characteristics that decide are known -/
def cutAt (P : Params) (L R Lc Rc : Seg) (lch rch : List LabelChar) : Seg × Seg × Branch :=
  if lch.length = rch.length then
    let k := mergeIndex (lch.map (·.score)) (rch.map (·.score))
    if k = 0 then (L.sub Lc.items, R, .index0)
    else if k = lch.length then (L, R.sub Rc.items, .indexN)
    else (L.sub (Lc.items.drop ((lch[k]?).map (·.idx) |>.getD 0)),
          R.sub (Rc.items.take ((rch[k]?).map (·.idx) |>.getD 0)), .interior)
  else if Lc.score P > Rc.score P then (L, R.sub Rc.items, .dropRight)
  else (L.sub Lc.items, R, .dropLeft)

def cut (P : Params) (L R Lc Rc : Seg) : Seg × Seg × Branch :=
  let (lch, rch) :=
    if Lc.peak > Rc.peak then (charsRef P 0 0 Lc.items, charsRef P 0 0 Rc.items)
    else (charsQry P 0 0 Lc.items, charsQry P 0 0 Rc.items)
  cutAt P L R Lc Rc lch rch

theorem resolvePairB_eq (P : Params) (L R : Seg) : resolvePairB P L R = do
    if L.items.isEmpty then return (L, R, .emptyLeft)
    if !(← L.endOverlapsWithStartOf R) then return (L, R, .noOverlap)
    let cs ← R.startPos
    let ce ← L.endPos
    return cut P L R (← L.slice cs ce) (← R.slice cs ce) := by
  unfold resolvePairB cut cutAt
  simp only [apply_ite (pure (f := Except Err))]

theorem cut_eq (P : Params) (L R Lc Rc : Seg) : cut P L R Lc Rc =
    if Lc.peak > Rc.peak then cutAt P L R Lc Rc (charsRef P 0 0 Lc.items) (charsRef P 0 0 Rc.items)
    else cutAt P L R Lc Rc (charsQry P 0 0 Lc.items) (charsQry P 0 0 Rc.items) := by
  unfold cut
  by_cases hp : Lc.peak > Rc.peak
  · rw [if_pos hp, if_pos hp]
  · rw [if_neg hp, if_neg hp]

inductive Cut (L R Lc Rc : Seg) : Seg × Seg × Branch → Prop
  | left {b} : b = .index0 ∨ b = .dropLeft → Cut L R Lc Rc (L.sub Lc.items, R, b)
  | right {b} : b = .indexN ∨ b = .dropRight → Cut L R Lc Rc (L, R.sub Rc.items, b)
  | interior (li ri) : Cut L R Lc Rc (L.sub (Lc.items.drop li), R.sub (Rc.items.take ri), .interior)

theorem cutAt_cases (P : Params) (L R Lc Rc : Seg) (lch rch : List LabelChar) :
    Cut L R Lc Rc (cutAt P L R Lc Rc lch rch) :=
  iteInduction
    (fun _ => iteInduction (fun _ => .left (.inl rfl))
      fun _ => iteInduction (fun _ => .right (.inl rfl)) fun _ => .interior ..)
    fun _ => iteInduction (fun _ => .right (.inr rfl)) fun _ => .left (.inr rfl)

theorem cut_cases (P : Params) (L R Lc Rc : Seg) : Cut L R Lc Rc (cut P L R Lc Rc) := by
  rw [cut_eq]
  split <;> exact cutAt_cases ..

inductive Step (P : Params) (L R : Seg) : Seg × Seg × Branch → Prop
  | emptyLeft : L.items = [] → Step P L R (L, R, .emptyLeft)
  | noOverlap : L.items ≠ [] → L.endOverlapsWithStartOf R = .ok false → Step P L R (L, R, .noOverlap)
  | conflict {cs ce Lc Rc x} : L.items ≠ [] → L.endOverlapsWithStartOf R = .ok true →
      R.startPos = .ok cs → L.endPos = .ok ce → L.slice cs ce = .ok Lc → R.slice cs ce = .ok Rc →
      Cut L R Lc Rc x → Step P L R x

theorem resolvePairB_step {P : Params} {L R : Seg} {x : Seg × Seg × Branch}
    (h : resolvePairB P L R = .ok x) : Step P L R x := by
  rw [resolvePairB_eq] at h
  by_cases h0 : L.items = []
  · rw [h0] at h
    cases h
    exact .emptyLeft h0
  · rw [if_neg (by simpa using h0)] at h
    obtain ⟨ov, hov, h⟩ := (Exc.bind_ok ..).1 h
    cases ov with
    | false => cases h; exact .noOverlap h0 hov
    | true =>
      obtain ⟨cs, hcs, h⟩ := (Exc.bind_ok ..).1 h
      obtain ⟨ce, hce, h⟩ := (Exc.bind_ok ..).1 h
      cases h
      exact .conflict h0 hov hcs hce rfl rfl (cut_cases ..)

theorem region_left {L Lc : Seg} {cs ce : SP} (hL : LeftOK L) (hne : L.items ≠ [])
    (hce : L.endPos = .ok ce) (hLc : L.slice cs ce = .ok Lc) :
    ∃ e, ce = .pr e ∧ L.items.getLast? = some (.pair e) ∧
      L.items = L.items.takeWhile (fun p => p.lessOnBoth cs.toPr) ++ Lc.items := by
  obtain ⟨e, he⟩ := hL.last.resolve_left hne
  obtain ⟨-, hp, hend⟩ := last_pair he
  cases hend.symm.trans hce
  rw [slice_left_of he (pairs_leqAny_last hL.asc hp) cs] at hLc
  cases hLc
  exact ⟨e, rfl, he, (List.takeWhile_append_dropWhile ..).symm⟩

theorem region_right {R Rc : Seg} {cs ce : SP} (hR : R.items = [] ∨ FirstIsPair R.items)
    (hcs : R.startPos = .ok cs) (hRc : R.slice cs ce = .ok Rc) :
    ∃ t, R.items = Rc.items ++ (t ++ R.items.dropWhile fun p => !p.isPair || p.leqAny ce.toPr) ∧
      ∀ x ∈ t, x.isPair = false := by
  -- nothing of `R` is below its own start
  have hd : R.items.dropWhile (fun p => p.lessOnBoth cs.toPr) = R.items := by
    rcases hR with hR0 | ⟨c, hc⟩
    · rw [hR0]; rfl
    · obtain ⟨tl, hc⟩ := List.head?_eq_some_iff.mp hc
      cases (first_pair hc).2.2.symm.trans hcs
      rw [hc, List.dropWhile_cons_of_neg]
      simp [APos.lessOnBoth, SP.toPr, lessOnBoth_irrefl]
  obtain ⟨Rc', t, h1, h2, h3⟩ := slice_spec R cs ce
  cases h1.symm.trans hRc
  rw [hd] at h2
  exact ⟨t, by rw [← List.append_assoc, ← h2, List.takeWhile_append_dropWhile], h3⟩

theorem cut_left {L R Lc Rc l r : Seg} {b : Branch} {A : List APos} (hT : Cut L R Lc Rc (l, r, b))
    (hn : PyNodup L.items) (hA : L.items = A ++ Lc.items) : A <+: l.items ∧ l.items <+: L.items := by
  cases hT with
  | left => rw [sub_suffix hn hA, hA]; exact ⟨List.prefix_rfl, List.prefix_append ..⟩
  | right => exact ⟨hA ▸ List.prefix_append .., List.prefix_rfl⟩
  | interior li ri =>
    have hA' : L.items = (A ++ Lc.items.take li) ++ Lc.items.drop li := by
      rw [List.append_assoc, List.take_append_drop]; exact hA
    rw [sub_suffix hn hA']
    exact ⟨List.prefix_append .., hA' ▸ List.prefix_append ..⟩

theorem cut_right {L R Lc Rc l r : Seg} {b : Branch} {B : List APos} (hT : Cut L R Lc Rc (l, r, b))
    (hn : PyNodup R.items) (hB : R.items = Rc.items ++ B) : B <:+ r.items ∧ r.items <:+ R.items := by
  cases hT with
  | left => exact ⟨hB ▸ List.suffix_append .., List.suffix_rfl⟩
  | right => rw [sub_prefix hn hB, hB]; exact ⟨List.suffix_rfl, List.suffix_append ..⟩
  | interior li ri =>
    have hB' : R.items = Rc.items.take ri ++ (Rc.items.drop ri ++ B) := by
      rw [← List.append_assoc, List.take_append_drop]; exact hB
    rw [sub_prefix hn hB']
    exact ⟨List.suffix_append .., hB' ▸ List.suffix_append ..⟩

theorem step_left {P : Params} {L R l r : Seg} {b : Branch} (h : resolvePairB P L R = .ok (l, r, b))
    (hL : LeftOK L) : l.items <+: L.items ∧
      ∀ cs, R.startPos = .ok cs → L.items.takeWhile (fun p => p.lessOnBoth cs.toPr) <+: l.items := by
  cases resolvePairB_step h with
  | emptyLeft | noOverlap => exact ⟨List.prefix_rfl, fun _ _ => List.takeWhile_prefix _⟩
  | @conflict cs ce Lc Rc _ hne _ hcs hce hLc hRc hT =>
    obtain ⟨e, rfl, he, hA⟩ := region_left hL hne hce hLc
    have := cut_left hT hL.nodup hA
    refine ⟨this.2, fun cs' hcs' => ?_⟩
    cases hcs.symm.trans hcs'
    exact this.1

theorem step_right {P : Params} {L R l r : Seg} {b : Branch} (h : resolvePairB P L R = .ok (l, r, b))
    (hn : PyNodup R.items) (hR : R.items = [] ∨ FirstIsPair R.items) : r.items <:+ R.items ∧
      ∀ ce, L.endPos = .ok ce → R.items.dropWhile (fun p => !p.isPair || p.leqAny ce.toPr) <:+ r.items := by
  cases resolvePairB_step h with
  | emptyLeft | noOverlap => exact ⟨List.suffix_rfl, fun _ _ => List.dropWhile_suffix _⟩
  | @conflict cs ce Lc Rc _ hne _ hcs hce hLc hRc hT =>
    obtain ⟨t, hB, _⟩ := region_right hR hcs hRc
    have := cut_right hT hn hB
    refine ⟨this.2, fun ce' hce' => ?_⟩
    cases hce.symm.trans hce'
    exact (List.suffix_append ..).trans this.1

theorem noOverlap_leqAny {L R : Seg} {se os : SP} (hne : L.items ≠ [])
    (h : L.endOverlapsWithStartOf R = .ok false)
    (hse : L.endPos = .ok se) (hos : R.startPos = .ok os) : os.leqAny se = false := by
  unfold Seg.endOverlapsWithStartOf at h
  simp only [bind, Except.bind, pure, Except.pure, hse, hos] at h
  rw [if_neg (by simpa using hne)] at h
  split at h
  · cases h
  · split at h
    · cases h
    · split at h
      · cases h
      · rename_i hx
        simpa using hx

theorem asc_ge_head {xs : List APos} {c : Pr} (ha : PairsAscending xs) (hc : (pairsOf xs).head? = some c) :
    ∀ p ∈ pairsOf xs, c.r.pos ≤ p.r.pos ∧ c.q.pos ≤ p.q.pos := by
  intro p hp
  rcases pairwise_ge_head ha hc p hp with rfl | h
  · omega
  · omega

theorem asc_le_last {xs : List APos} {e : Pr} (ha : PairsAscending xs) (he : (pairsOf xs).getLast? = some e) :
    ∀ p ∈ pairsOf xs, p.r.pos ≤ e.r.pos ∧ p.q.pos ≤ e.q.pos := by
  intro p hp
  rcases pairwise_le_last ha he p hp with rfl | h
  · omega
  · omega

theorem below_of_not_leqAny {L R : Seg} {e s : Pr} (hL : PairsAscending L.items) (hS : StrictCoords L R)
    (he : L.items.getLast? = some (.pair e)) (hs : s ∈ R.pairs) (h : s.leqAny e = false) :
    ∀ p ∈ L.pairs, p.r.pos < s.r.pos ∧ p.q.pos < s.q.pos := by
  have hp := (last_pair he).2.1
  obtain ⟨h1, h2, h3, h4⟩ := leqAny_false h
  -- `s` is at or beyond `e` on both maps with other labels; coordinates are strict, so it is beyond
  obtain ⟨g1, g2⟩ := hS e (List.mem_of_getLast? hp) s hs
  have n1 : e.r.pos ≠ s.r.pos := fun hh => h4 (g1 hh).symm
  have n2 : e.q.pos ≠ s.q.pos := fun hh => h3 (g2 hh).symm
  intro p hpm
  have := asc_le_last hL hp p hpm
  omega

theorem separated_of_pivot {l r : Seg} {y : Pr}
    (hl : ∀ p ∈ l.pairs, p.r.pos < y.r.pos ∧ p.q.pos < y.q.pos)
    (hr : ∀ p ∈ r.pairs, y.r.pos ≤ p.r.pos ∧ y.q.pos ≤ p.q.pos) : Separated l r := by
  intro p hp p' hp'
  have := hl p hp
  have := hr p' hp'
  omega

theorem separated_of_pairs_nil {l r : Seg} (h : r.pairs = []) : Separated l r := by
  intro p _ p' hp'
  rw [h] at hp'; cases hp'

theorem separated_dropWhile {L R r : Seg} {e : Pr} (hL : PairsAscending L.items) (hR : PairsAscending R.items)
    (hS : StrictCoords L R) (he : L.items.getLast? = some (.pair e))
    (hr : r.pairs = pairsOf (R.items.dropWhile fun p => !p.isPair || p.leqAny e)) : Separated L r := by
  have hasc : PairsAscending (R.items.dropWhile fun p => !p.isPair || p.leqAny e) :=
    hR.sublist ((List.dropWhile_sublist _).filterMap _)
  cases hdw : R.items.dropWhile (fun p => !p.isPair || p.leqAny e) with
  | nil => exact separated_of_pairs_nil (by rw [hr, hdw]; rfl)
  | cons s dw =>
    -- the first position kept is a pair `s'` that is not `leqAny e`: the pivot
    have hs := dropWhile_eq_cons (p := fun (a : APos) => !a.isPair || a.leqAny e) hdw
    cases s with
    | uref _ => simp [APos.isPair] at hs
    | uqry _ _ => simp [APos.isPair] at hs
    | pair s' =>
      have hsR : s' ∈ R.pairs := mem_pairsOf.mpr ((List.dropWhile_sublist _).subset (hdw ▸ List.mem_cons_self ..))
      rw [hdw] at hasc hr
      refine separated_of_pivot (below_of_not_leqAny hL hS he hsR
        (by simpa [APos.isPair, APos.leqAny] using hs)) fun p' hp' => ?_
      rw [hr] at hp'
      exact asc_ge_head hasc rfl p' hp'

theorem endOverlaps_ok {L R : Seg} {ss se os oe : SP} (hss : L.startPos = .ok ss)
    (hse : L.endPos = .ok se) (hos : R.startPos = .ok os) (hoe : R.endPos = .ok oe) :
    ∃ ov, L.endOverlapsWithStartOf R = .ok ov := by
  unfold Seg.endOverlapsWithStartOf
  simp only [bind, Except.bind, pure, Except.pure, hss, hse, hos, hoe]
  cases L.items.isEmpty <;> cases os.leqAny ss <;> cases os.leqAny se <;> exact ⟨_, rfl⟩

theorem leftOK_pairs {L : Seg} (hL : LeftOK L) : L.items = [] ∨ L.pairs ≠ [] :=
  hL.last.imp_right fun ⟨_, he⟩ hp => by simpa [hp] using (last_pair he).2.1

theorem rightOK_pairs {R : Seg} (hR : RightOK R) : R.items = [] ∨ R.pairs ≠ [] :=
  hR.first.imp_right fun ⟨_, hc⟩ hp => by
    obtain ⟨tl, hc⟩ := List.head?_eq_some_iff.mp hc
    simpa [hp] using (first_pair hc).2.1

end Coma.Proofs.Conflict

namespace Coma.Proofs
open Coma.Spec Coma.Proofs.Conflict

theorem resolve_sublist {P : Params} {L R l r : Seg} {b : Branch} (h : resolvePairB P L R = .ok (l, r, b)) :
    l.items.Sublist L.items ∧ r.items.Sublist R.items ∧ l.peak = L.peak ∧ r.peak = R.peak := by
  cases resolvePairB_step h with
  | emptyLeft | noOverlap => exact ⟨.refl _, .refl _, rfl, rfl⟩
  | conflict _ _ _ _ _ _ hT =>
    cases hT with
    | left => exact ⟨List.filter_sublist, .refl _, rfl, rfl⟩
    | right => exact ⟨.refl _, List.filter_sublist, rfl, rfl⟩
    | interior => exact ⟨List.filter_sublist, List.filter_sublist, rfl, rfl⟩

theorem resolve_subrun {P : Params} {L R l r : Seg} {b : Branch} (h : resolvePairB P L R = .ok (l, r, b))
    (hL : LeftOK L) (hR : RightOK R) :
    l.items <+: L.items ∧ r.items <:+ R.items :=
  ⟨(step_left h hL).1, (step_right h hR.nodup hR.first).1⟩

theorem resolve_keeps_outside {P : Params} {L R l r : Seg} {b : Branch} (h : resolvePairB P L R = .ok (l, r, b))
    (hL : LeftOK L) (hR : RightOK R) {cs ce : Pr}
    (hcs : R.pairs.head? = some cs) (hce : L.pairs.getLast? = some ce) :
    (L.items.takeWhile (fun p => p.lessOnBoth cs)) <+: l.items ∧
    (R.items.dropWhile (fun p => !p.isPair || p.leqAny ce)) <:+ r.items :=
  -- the two given pairs are the positions the resolver reads
  ⟨(step_left h hL).2 (.pr cs) (startPos_of_head? hcs), (step_right h hR.nodup hR.first).2 (.pr ce) (endPos_of_getLast? hce)⟩

theorem resolve_separated {P : Params} {L R l r : Seg} {b : Branch}
    (h : resolvePairB P L R = .ok (l, r, b)) (hL : LeftOK L) (hR : RightOK R) (hS : StrictCoords L R)
    (hb : b ≠ Branch.interior) : Separated l r := by
  by_cases hR0 : R.items = []
  · have hsub := (resolve_sublist h).2.1
    rw [hR0] at hsub
    exact separated_of_pairs_nil (pairs_nil_of_items_nil (List.eq_nil_of_sublist_nil hsub))
  obtain ⟨c, tl, hc⟩ := rightOK_first hR hR0
  obtain ⟨-, hcp, hcs0⟩ := first_pair hc
  have hcR : c ∈ R.pairs := List.mem_of_head? hcp
  have hge := asc_ge_head hR.asc hcp
  cases resolvePairB_step h with
  | emptyLeft h0 =>
    intro p hp
    rw [pairs_nil_of_items_nil h0] at hp; cases hp
  | noOverlap hne hov =>
    obtain ⟨e, he⟩ := hL.last.resolve_left hne
    exact separated_of_pivot (below_of_not_leqAny hL.asc hS he hcR
      (noOverlap_leqAny hne hov (last_pair he).2.2 hcs0)) hge
  | @conflict cs ce Lc Rc _ hne _ hcs hce hLc hRc hT =>
    obtain ⟨e, rfl, he, hA⟩ := region_left hL hne hce hLc
    obtain ⟨t, hB, htu⟩ := region_right hR.first hcs hRc
    cases hT with
    | interior => exact absurd rfl hb
    | left =>
      -- what is left of `L` is below the first pair of `R` on both maps
      cases hcs0.symm.trans hcs
      refine separated_of_pivot (fun p hp => ?_) hge
      have hm := mem_pairsOf.mp hp
      rw [sub_suffix hL.nodup hA] at hm
      have := lessOnBoth_iff.mp (mem_takeWhile_imp (p := fun (a : APos) => a.lessOnBoth c) hm)
      omega
    | right =>
      -- what is left of `R` starts (after unpaired positions) at a pair that is not `leqAny e`
      refine separated_dropWhile hL.asc hR.asc hS he ?_
      rw [Seg.pairs, sub_prefix hR.nodup hB, List.filterMap_append]
      exact congrArg (· ++ _) (pairsOf_eq_nil htu)

/-- a resolver step can only raise at `alignedPositions[0]` of a non-empty segment without a pair -/
theorem resolvePairB_total_of_pairs (P : Params) (L R : Seg)
    (hL : L.items = [] ∨ L.pairs ≠ []) (hR : R.items = [] ∨ R.pairs ≠ []) :
    ∃ l r b, resolvePairB P L R = .ok (l, r, b) := by
  obtain ⟨ss, hss⟩ := startPos_ok hL
  obtain ⟨se, hse⟩ := endPos_ok hL
  obtain ⟨os, hos⟩ := startPos_ok hR
  obtain ⟨oe, hoe⟩ := endPos_ok hR
  obtain ⟨ov, hov⟩ := endOverlaps_ok hss hse hos hoe
  -- the overlap test and the two positions are all that a step can raise on
  rw [resolvePairB_eq, hov, hos, hse]
  split
  · exact ⟨_, _, _, rfl⟩
  · cases ov <;> exact ⟨_, _, _, rfl⟩

theorem resolve_total (P : Params) (L R : Seg) (hL : LeftOK L) (hR : RightOK R) :
    ∃ l r b, resolvePairB P L R = .ok (l, r, b) :=
  resolvePairB_total_of_pairs P L R (leftOK_pairs hL) (rightOK_pairs hR)

end Coma.Proofs
