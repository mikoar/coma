import Props.Defs
import Proofs.ListLemmas

/-
  The dynamic programme of the chainer (`dpChain`, generic in the item type) against `chainTotal`.  Every row of the
  table holds the total of a chain that ends in its item, reached through its `prev` link, and bounds every chain of
  earlier items that its item continues (`Good`); back-tracking reads the chain off the links (`dpChain_spec`).  The
  programme is natural in the item type (`dpChain_map`).
-/
namespace Coma.Proofs
open Coma.Spec

section DP
variable {α : Type _} (score : α → Rat) (join : α → α → Option Rat)

theorem chainTotal_cons_cons (a b : α) (t : List α) :
    chainTotal score join (a :: b :: t) =
      match join a b, chainTotal score join (b :: t) with
      | some j, some r => some (score a + j + r)
      | _, _ => none := by
  rw [chainTotal]
  rfl

theorem chainTotal_snoc (c : List α) (y x : α) :
    chainTotal score join (c ++ [y, x]) =
      match chainTotal score join (c ++ [y]), join y x with
      | some t, some j => some (t + j + score x)
      | _, _ => none := by
  induction c with
  | nil =>
    show chainTotal score join [y, x] = _
    rw [chainTotal_cons_cons]
    cases join y x with
    | none => rfl
    | some j => rfl
  | cons a c ih =>
    -- `c ++ [y]` has a head `b`, which is also the head of `c ++ [y, x]`
    obtain ⟨b, t, hbt⟩ := List.exists_cons_of_ne_nil (List.append_ne_nil_of_right_ne_nil c (List.cons_ne_nil y []))
    have hbt' : c ++ [y, x] = b :: (t ++ [x]) := by
      rw [← List.cons_append, ← hbt, List.append_assoc]; rfl
    rw [hbt', hbt] at ih
    rw [List.cons_append, List.cons_append, hbt', hbt]
    rw [chainTotal_cons_cons, ih, chainTotal_cons_cons]
    cases join a b with
    | none => rfl
    | some j =>
      cases chainTotal score join (b :: t) with
      | none => rfl
      | some r =>
        cases join y x with
        | none => rfl
        | some j' => exact congrArg some (by rw [← Rat.add_assoc, ← Rat.add_assoc])

theorem chainTotal_some_consec : ∀ (l : List α) (v : Rat), chainTotal score join l = some v →
    Consec (fun a b => join a b ≠ none) l
  | [], _, _ => trivial
  | [_], _, _ => trivial
  | a :: b :: t, v, h => by
    rw [chainTotal_cons_cons] at h
    cases hj : join a b with
    | none => simp [hj] at h
    | some j =>
      cases hr : chainTotal score join (b :: t) with
      | none => simp [hj, hr] at h
      | some r =>
        exact ⟨by simp [hj], chainTotal_some_consec (b :: t) r hr⟩

theorem leOpt_mono {x : Option Rat} {a b : Rat} (h : leOpt x a) (hab : a ≤ b) : leOpt x b := by
  cases x with
  | none => trivial
  | some v => exact Rat.le_trans (show v ≤ a from h) hab

theorem bestPrev_spec (cur : α) (rows : List (α × Rat)) (acc : Rat) (ai : Option Nat) (j : Nat) :
    acc ≤ (bestPrev join cur acc ai j rows).1 ∧
    (∀ x ∈ rows, ∀ jn, join x.1 cur = some jn → x.2 + jn ≤ (bestPrev join cur acc ai j rows).1) ∧
    (bestPrev join cur acc ai j rows = (acc, ai) ∨
      ∃ (k : Nat) (p : α) (c jn : Rat), rows[k]? = some (p, c) ∧ join p cur = some jn ∧
        bestPrev join cur acc ai j rows = (c + jn, some (j + k))) := by
  induction rows generalizing acc ai j with
  | nil => exact ⟨Rat.le_refl, fun _ hx => (nomatch hx), .inl rfl⟩
  | cons pc rest ih =>
    obtain ⟨p, c⟩ := pc
    -- a witness in `rest`, found from index `j + 1` on, is a witness in `(p, c) :: rest`
    have up : ∀ {r}, (∃ k p' c' jn, rest[k]? = some (p', c') ∧ join p' cur = some jn ∧
          r = (c' + jn, some (j + 1 + k))) →
        ∃ k p' c' jn, ((p, c) :: rest)[k]? = some (p', c') ∧ join p' cur = some jn ∧ r = (c' + jn, some (j + k)) :=
      fun ⟨k, p', c', jn, hk, hj, hr⟩ => ⟨k + 1, p', c', jn, hk, hj, by rw [hr, Nat.add_assoc, Nat.add_comm 1]⟩
    rw [bestPrev]
    cases hj : join p cur with
    | none =>
      obtain ⟨h1, h2, h3⟩ := ih acc ai (j + 1)
      exact ⟨h1, List.forall_mem_cons.2 ⟨fun _ hj' => (nomatch hj.symm.trans hj'), h2⟩, h3.imp_right up⟩
    | some jn =>
      -- the head is a finite candidate: whichever way the comparison goes, the rest is scanned from a value above it
      have hd : ∀ {v : Rat}, c + jn ≤ v → ∀ jn', join p cur = some jn' → c + jn' ≤ v :=
        fun hv _ hj' => Option.some.inj (hj.symm.trans hj') ▸ hv
      dsimp only
      by_cases hgt : c + jn > acc
      · rw [if_pos hgt]
        obtain ⟨h1, h2, h3⟩ := ih (c + jn) (some j) (j + 1)
        exact ⟨Rat.le_trans (Rat.le_of_lt hgt) h1, List.forall_mem_cons.2 ⟨hd h1, h2⟩,
          .inr (h3.elim (fun h => ⟨0, p, c, jn, rfl, hj, h⟩) up)⟩
      · rw [if_neg hgt]
        obtain ⟨h1, h2, h3⟩ := ih acc ai (j + 1)
        exact ⟨h1, List.forall_mem_cons.2 ⟨hd (Rat.le_trans (Rat.not_lt.mp hgt) h1), h2⟩, h3.imp_right up⟩

/-- the value of a row is reached through its `prev` link into the rows before it -/
def RowA (before : List (α × Rat × Option Nat)) (x : α) (c : Rat) : Option Nat → Prop
  | none => c = score x
  | some j => ∃ (y : α) (cj : Rat) (pj : Option Nat) (jn : Rat),
      before[j]? = some (y, cj, pj) ∧ join y x = some jn ∧ c = cj + jn + score x

/-- … and bounds every chain of earlier items that is continued by `x` -/
def RowB (before : List (α × Rat × Option Nat)) (x : α) (c : Rat) : Prop :=
  ∀ c' : List α, c'.Sublist (before.map (·.1)) → leOpt (chainTotal score join (c' ++ [x])) c

def Good (tbl : List (α × Rat × Option Nat)) : Prop :=
  ∀ (i : Nat) (x : α) (c : Rat) (p : Option Nat), tbl[i]? = some (x, c, p) →
    RowA score join (tbl.take i) x c p ∧ RowB score join (tbl.take i) x c

theorem good_bound {tbl : List (α × Rat × Option Nat)} (hg : Good score join tbl) {c : List α} {y : α}
    (h : (c ++ [y]).Sublist (tbl.map (·.1))) :
    ∃ cj pj, (y, cj, pj) ∈ tbl ∧ leOpt (chainTotal score join (c ++ [y])) cj := by
  obtain ⟨k, hk, hsub⟩ := sublist_snoc_split h
  rw [List.getElem?_map, Option.map_eq_some_iff] at hk
  obtain ⟨⟨y', cj, pj⟩, hk, rfl⟩ := hk
  exact ⟨cj, pj, List.mem_of_getElem? hk, (hg k y' cj pj hk).2 c (by rwa [List.map_take])⟩

theorem dpTable_cons (done : List (α × Rat × Option Nat)) (x : α) (xs : List α) :
    dpTable score join done (x :: xs) =
      dpTable score join (done ++ [(x,
        (bestPrev join x 0 none 0 (done.map fun t => (t.1, t.2.1))).1 + score x,
        (bestPrev join x 0 none 0 (done.map fun t => (t.1, t.2.1))).2)]) xs := rfl

theorem good_snoc {done : List (α × Rat × Option Nat)} {x : α} {c : Rat} {p : Option Nat}
    (hg : Good score join done) (hA : RowA score join done x c p) (hB : RowB score join done x c) :
    Good score join (done ++ [(x, c, p)]) := by
  intro i x' c' p' h
  rcases Nat.lt_or_ge i done.length with hi | hi
  · rw [List.getElem?_append_left hi] at h
    rw [List.take_append_of_le_length (Nat.le_of_lt hi)]
    exact hg i x' c' p' h
  · obtain rfl : i = done.length := by
      have := (List.getElem?_eq_some_iff.mp h).1
      simp only [List.length_append, List.length_singleton] at this
      omega
    rw [List.getElem?_append_right (Nat.le_refl _), Nat.sub_self] at h
    cases h
    rw [List.take_left' rfl]
    exact ⟨hA, hB⟩

theorem good_step (done : List (α × Rat × Option Nat)) (x : α) (hg : Good score join done) :
    Good score join (done ++ [(x,
        (bestPrev join x 0 none 0 (done.map fun t => (t.1, t.2.1))).1 + score x,
        (bestPrev join x 0 none 0 (done.map fun t => (t.1, t.2.1))).2)]) := by
  obtain ⟨hle, hge, heq⟩ := bestPrev_spec join x (done.map fun t => (t.1, t.2.1)) 0 none 0
  refine good_snoc score join hg ?_ ?_
  · rcases heq with h | ⟨k, y, cj, jn, hk, hjn, h⟩
    · rw [h]; exact Rat.zero_add (score x)
    · rw [h, Nat.zero_add]
      rw [List.getElem?_map, Option.map_eq_some_iff] at hk
      obtain ⟨⟨y', cj', pj⟩, hk, hyc⟩ := hk
      cases hyc
      exact ⟨_, _, pj, jn, hk, hjn, rfl⟩
  · intro c' hc'
    rcases List.eq_nil_or_concat c' with rfl | ⟨c'', y, rfl⟩
    · calc score x = 0 + score x := (Rat.zero_add _).symm
        _ ≤ _ + score x := Rat.add_le_add_right.mpr hle
    · rw [List.concat_eq_append] at hc' ⊢
      obtain ⟨cj, pj, hm, hB⟩ := good_bound score join hg hc'
      rw [List.append_assoc]
      show leOpt (chainTotal score join (c'' ++ [y, x])) _
      rw [chainTotal_snoc]
      cases ht : chainTotal score join (c'' ++ [y]) with
      | none => trivial
      | some t =>
        cases hjn : join y x with
        | none => trivial
        | some jn =>
          rw [ht] at hB
          have h1 : cj + jn ≤ _ := hge _ (List.mem_map.mpr ⟨_, hm, rfl⟩) jn hjn
          have h2 : t ≤ cj := hB
          show t + jn + score x ≤ _ + score x
          exact Rat.add_le_add_right.mpr (Rat.le_trans (Rat.add_le_add_right.mpr h2) h1)

theorem dpTable_good : ∀ (xs : List α) (done : List (α × Rat × Option Nat)),
    Good score join done → Good score join (dpTable score join done xs)
  | [], done, hg => by simpa [dpTable] using hg
  | x :: xs, done, hg => by
    rw [dpTable_cons]
    exact dpTable_good xs _ (good_step score join done x hg)

theorem dpTable_items : ∀ (xs : List α) (done : List (α × Rat × Option Nat)),
    (dpTable score join done xs).map (·.1) = done.map (·.1) ++ xs
  | [], done => by simp [dpTable]
  | x :: xs, done => by
    rw [dpTable_cons, dpTable_items xs]
    simp

theorem bestIdxFrom_spec (cs : List Rat) (best : Rat) (bi i : Nat) :
    ∃ v, best ≤ v ∧ (∀ w ∈ cs, w ≤ v) ∧
      ((v = best ∧ bestIdxFrom best bi i cs = bi) ∨ ∃ k, cs[k]? = some v ∧ bestIdxFrom best bi i cs = i + k) := by
  induction cs generalizing best bi i with
  | nil => exact ⟨best, Rat.le_refl, fun _ hw => (nomatch hw), .inl ⟨rfl, rfl⟩⟩
  | cons c cs ih =>
    rw [bestIdxFrom]
    by_cases hgt : c > best
    · rw [if_pos hgt]
      obtain ⟨v, hv, hall, hidx⟩ := ih c i (i + 1)
      refine ⟨v, Rat.le_trans (Rat.le_of_lt hgt) hv, fun w hw => ?_, .inr ?_⟩
      · rcases List.mem_cons.mp hw with rfl | hw
        · exact hv
        · exact hall w hw
      · rcases hidx with ⟨rfl, hi⟩ | ⟨k, hk, hi⟩
        · exact ⟨0, rfl, hi⟩
        · exact ⟨k + 1, hk, by rw [hi, Nat.add_assoc, Nat.add_comm 1]⟩
    · rw [if_neg hgt]
      obtain ⟨v, hv, hall, hidx⟩ := ih best bi (i + 1)
      refine ⟨v, hv, fun w hw => ?_,
        hidx.imp_right fun ⟨k, hk, hi⟩ => ⟨k + 1, hk, by rw [hi, Nat.add_assoc, Nat.add_comm 1]⟩⟩
      rcases List.mem_cons.mp hw with rfl | hw
      · exact Rat.le_trans (Rat.not_lt.mp hgt) hv
      · exact hall w hw

theorem bestIdx_spec (l : List Rat) (h : l ≠ []) :
    ∃ v, l[bestIdx l]? = some v ∧ ∀ w ∈ l, w ≤ v := by
  obtain ⟨c, cs, rfl⟩ := List.exists_cons_of_ne_nil h
  obtain ⟨v, hv, hall, hidx⟩ := bestIdxFrom_spec cs c 0 1
  refine ⟨v, ?_, fun w hw => ?_⟩
  · show (c :: cs)[bestIdxFrom c 0 1 cs]? = some v
    rcases hidx with ⟨rfl, hi⟩ | ⟨k, hk, hi⟩
    · rw [hi]; rfl
    · rw [hi, Nat.add_comm]; exact hk
  · rcases List.mem_cons.mp hw with rfl | hw
    · exact hv
    · exact hall w hw

theorem backtrack_spec (tbl : List (α × Rat × Option Nat)) (hg : Good score join tbl) :
    ∀ (fuel i : Nat) (acc : List Nat) (x : α) (c : Rat) (p : Option Nat),
      i < fuel → tbl[i]? = some (x, c, p) →
      ∃ path : List Nat, backtrack tbl fuel i acc = path ++ i :: acc ∧ (path ++ [i]).Pairwise (· < ·) ∧
        chainTotal score join ((path ++ [i]).filterMap (fun k => (tbl.map (·.1))[k]?)) = some c := by
  -- a path that ends in row `k` selects the item of that row last
  have hsel : ∀ (l : List Nat) {k : Nat} {r : α × Rat × Option Nat}, tbl[k]? = some r →
      (l ++ [k]).filterMap (fun k => (tbl.map (·.1))[k]?) = l.filterMap (fun k => (tbl.map (·.1))[k]?) ++ [r.1] :=
    fun l k r hk => by rw [List.filterMap_append, List.filterMap_cons, List.getElem?_map, hk]; rfl
  intro fuel
  induction fuel with
  | zero => intro i acc x c p hi; omega
  | succ fuel ih =>
    intro i acc x c p hi hrow
    have hA := (hg i x c p hrow).1
    cases p with
    | none =>
      refine ⟨[], by simp [backtrack, hrow], List.pairwise_singleton .., ?_⟩
      rw [hsel [] hrow, show c = score x from hA]
      rfl
    | some j =>
      obtain ⟨y, cj, pj, jn, hj, hjn, hc⟩ := hA
      rw [List.getElem?_take] at hj
      split at hj
      · rename_i hji
        obtain ⟨path, hbt, hpw, htot⟩ := ih j (i :: acc) y cj pj (by omega) hj
        refine ⟨path ++ [j], by simp [backtrack, hrow, hbt], ?_, ?_⟩
        · -- the path to `j` ends in `j`, which is below `i`
          refine List.pairwise_append.mpr ⟨hpw, List.pairwise_singleton .., fun a ha b hb => ?_⟩
          cases List.mem_singleton.mp hb
          rcases pairwise_le_last hpw List.getLast?_concat a ha with rfl | h
          · exact hji
          · exact Nat.lt_trans h hji
        · rw [hsel _ hrow, hsel _ hj, List.append_assoc]
          show chainTotal score join (_ ++ [y, x]) = _
          rw [chainTotal_snoc, ← hsel _ hj, htot, hjn, hc]
      · cases hj

theorem dpChain_spec (pre : List α) (h : pre ≠ []) :
    ∃ (b : Nat) (path : List Nat), (dpChain score join pre).1 = path ++ [b] ∧
      b < pre.length ∧ (path ++ [b]).Pairwise (· < ·) ∧
      chainTotal score join ((path ++ [b]).filterMap (fun k => pre[k]?)) = some (dpChain score join pre).2 ∧
      ∀ c : List α, c.Sublist pre → c ≠ [] → leOpt (chainTotal score join c) (dpChain score join pre).2 := by
  have hg : Good score join (dpTable score join [] pre) :=
    dpTable_good score join pre [] fun _ _ _ _ h => nomatch h
  have hitems : (dpTable score join [] pre).map (·.1) = pre := by
    simpa using dpTable_items score join pre []
  simp only [dpChain]
  generalize dpTable score join [] pre = tbl at hg hitems ⊢
  subst hitems
  obtain ⟨v, hv, hmax⟩ := bestIdx_spec (tbl.map (fun t => t.2.1)) (by simpa using h)
  generalize bestIdx (tbl.map (fun t => t.2.1)) = b at hv ⊢
  rw [List.getElem?_map, Option.map_eq_some_iff] at hv
  obtain ⟨⟨x, c, p⟩, hrow, rfl⟩ := hv
  have hbl : b < tbl.length := (List.getElem?_eq_some_iff.mp hrow).1
  obtain ⟨path, hbt, hpw, htot⟩ :=
    backtrack_spec score join tbl hg (tbl.map (·.1)).length b [] x c p (by simpa using hbl) hrow
  have hc : ((tbl.map (fun t => t.2.1))[b]?).getD 0 = c := by rw [List.getElem?_map, hrow]; rfl
  simp only [hbt, hc]
  refine ⟨b, path, rfl, by simpa using hbl, hpw, htot, fun c' hc' hne => ?_⟩
  rcases List.eq_nil_or_concat c' with rfl | ⟨c'', y, rfl⟩
  · exact absurd rfl hne
  · rw [List.concat_eq_append] at hc' ⊢
    obtain ⟨cj, pj, hm, hB⟩ := good_bound score join hg hc'
    exact leOpt_mono hB (hmax cj (List.mem_map.mpr ⟨_, hm, rfl⟩))

end DP

section Natural
variable {α β : Type} (f : α → β) (score : α → Rat) (join : α → α → Option Rat)
  (score' : β → Rat) (join' : β → β → Option Rat)

theorem bestPrev_map (hj : ∀ a b, join' (f a) (f b) = join a b) (cur : α) (acc : Rat) (ai : Option Nat) (j : Nat)
    (l : List (α × Rat)) :
    bestPrev join' (f cur) acc ai j (l.map fun t => (f t.1, t.2)) = bestPrev join cur acc ai j l := by
  induction l generalizing acc ai j with
  | nil => rfl
  | cons x xs ih =>
    obtain ⟨p, c⟩ := x
    simp only [List.map_cons, bestPrev, hj]
    cases join p cur with
    | none => exact ih _ _ _
    | some jn =>
      simp only
      split
      · exact ih _ _ _
      · exact ih _ _ _

def liftRow (f : α → β) (t : α × Rat × Option Nat) : β × Rat × Option Nat := (f t.1, t.2.1, t.2.2)

theorem dpTable_map (hs : ∀ a, score' (f a) = score a) (hj : ∀ a b, join' (f a) (f b) = join a b)
    (done : List (α × Rat × Option Nat)) (xs : List α) :
    dpTable score' join' (done.map (liftRow f)) (xs.map f) = (dpTable score join done xs).map (liftRow f) := by
  induction xs generalizing done with
  | nil => rfl
  | cons x xs ih =>
    have e : (done.map (liftRow f)).map (fun t => (t.1, t.2.1)) =
        (done.map fun t => (t.1, t.2.1)).map (fun t => (f t.1, t.2)) := by
      rw [List.map_map, List.map_map]; rfl
    rw [List.map_cons, dpTable_cons, dpTable_cons, e, bestPrev_map f join join' hj, hs, ← ih, List.map_append]
    rfl

theorem backtrack_map (tbl : List (α × Rat × Option Nat)) (fuel i : Nat) (acc : List Nat) :
    backtrack (tbl.map (liftRow f)) fuel i acc = backtrack tbl fuel i acc := by
  induction fuel generalizing i acc with
  | zero => rfl
  | succ n ih =>
    simp only [backtrack, List.getElem?_map]
    cases h : tbl[i]? with
    | none => rfl
    | some t =>
      obtain ⟨a, c, o⟩ := t
      cases o with
      | none => rfl
      | some j => simp [liftRow, ih]

theorem dpChain_map (hs : ∀ a, score' (f a) = score a) (hj : ∀ a b, join' (f a) (f b) = join a b)
    (l : List α) : dpChain score' join' (l.map f) = dpChain score join l := by
  unfold dpChain
  rw [show dpTable score' join' [] (l.map f) = _ from dpTable_map f score join score' join' hs hj [] l]
  have e : ((dpTable score join [] l).map (liftRow f)).map (fun t => t.2.1) =
      (dpTable score join [] l).map (fun t => t.2.1) := by
    rw [List.map_map]; rfl
  simp only [e, backtrack_map, List.length_map]

end Natural

end Coma.Proofs
