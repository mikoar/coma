import Proofs.Translate_Map

/-
  Moving a reference `d` bp down its chromosome (every label, and the seed peaks with it) moves every segment of the
  candidate alignment by `d` and changes nothing else (`alignerAlign_shift`).  (A tolerance that grows with the
  coordinate — `np.isclose` with its default relative tolerance, float32 coordinates — breaks exactly this.)
  For ARBITRARY segments `resolveConflicts` does NOT commute with the translation: in front of an empty right segment
  the resolver compares the reference labels of the left segment with the null pair `⟨0,0⟩`, and that comparison reads
  the sign of a reference coordinate.
-/
namespace Coma.Proofs
open Coma.Spec

def shiftLbl (d : Int) (l : Lbl) : Lbl := { l with pos := l.pos + d }
def shiftPr (d : Int) (p : Pr) : Pr := { p with r := shiftLbl d p.r }
def shiftAPos (d : Int) : APos → APos
  | .pair p   => .pair (shiftPr d p)
  | .uref r   => .uref (shiftLbl d r)
  | .uqry q s => .uqry q (s + d)
def shiftSeg (d : Int) (s : Seg) : Seg := { peak := s.peak + d, items := s.items.map (shiftAPos d) }

-- Proofs/Translate_Map.lean states its lemmas for copies of its own of these four definitions
theorem shiftLbl_eq : shiftLbl = Translate.tLbl := rfl
theorem shiftPr_eq : shiftPr = Translate.tPr := rfl

theorem segmentsOfPeaks_shift (P : Params) (ref qry : OMap) (rev : Bool) (it : Int) (peaks : List Int) (d : Int) :
    segmentsOfPeaks P (shiftRef d ref) qry rev it (peaks.map (· + d))
      = (segmentsOfPeaks P ref qry rev it peaks).map (List.map (shiftSeg d)) :=
  PMap.segmentsOfPeaks_map (m := Translate.shiftMap d) P ref _ qry qry rev rev id (fun _ => rfl) peaks it
    fun p _ it => Translate.engineAlign_peak d P.md ref qry rev it p

/-- The witness: a pair with a non-positive score (offset 2000, beyond the default penalty range) at reference
    coordinate 5, in front of an empty segment.  Untranslated, the null comparison says "no overlap" and the segment is
    kept; translated by −10 the coordinate is negative, the comparison says "overlap" and the `dropLeft` branch empties
    the segment. -/
theorem resolveConflicts_shift_false :
    ¬ ∀ (P : Params) (C : ChainCfg) (segs : List Seg) (d : Int),
      resolveConflicts P C (segs.map (shiftSeg d)) = (resolveConflicts P C segs).map (List.map (shiftSeg d)) := by
  intro h
  have := h defaultParams {} [⟨0, [.pair ⟨⟨1, 5⟩, ⟨1, 5⟩, 2000, 0⟩]⟩, ⟨0, []⟩] (-10)
  have := congrArg firstLen this
  revert this
  decide

/-- reference label number 0 at coordinate 0 is equal to the null label before the translation and not after it -/
theorem resolveConflicts_shift_false' :
    ¬ ∀ (P : Params) (C : ChainCfg) (segs : List Seg) (d : Int), 0 ≤ d →
      resolveConflicts P C (segs.map (shiftSeg d)) = (resolveConflicts P C segs).map (List.map (shiftSeg d)) := by
  intro h
  have := h defaultParams {} [⟨0, [.pair ⟨⟨0, 0⟩, ⟨1, 5⟩, 2000, 0⟩]⟩, ⟨0, []⟩] 10 (by decide)
  have := congrArg firstLen this
  revert this
  decide

/-- `hz`: the comparison of every reference label with the null label `⟨0,0⟩` reads the same before and after -/
theorem resolveConflicts_shift_of (P : Params) (C : ChainCfg) (segs : List Seg) (d : Int)
    (hz : ∀ s ∈ segs, ∀ a ∈ s.items, ∀ r, refLabel? a = some r →
      (r.pos + d < 0 ↔ r.pos < 0) ∧ (r.site = 0 → (r.pos + d = 0 ↔ r.pos = 0))) :
    resolveConflicts P C (segs.map (shiftSeg d)) = (resolveConflicts P C segs).map (List.map (shiftSeg d)) :=
  PMap.resolveConflicts_null (Translate.shiftMap_equi d) P C segs fun s hs => Translate.nullOK_shiftMap d (hz s hs)

/-- `1 ≤ r.site`: `OMap.labels` numbers the labels of a reference with `shift = 0` from 1 -/
theorem resolveConflicts_shift_nonneg (P : Params) (C : ChainCfg) (segs : List Seg) (d : Int)
    (hz : ∀ s ∈ segs, ∀ a ∈ s.items, ∀ r, refLabel? a = some r → 0 ≤ r.pos ∧ 0 ≤ r.pos + d ∧ 1 ≤ r.site) :
    resolveConflicts P C (segs.map (shiftSeg d)) = (resolveConflicts P C segs).map (List.map (shiftSeg d)) := by
  apply resolveConflicts_shift_of
  intro s hs a ha r hr
  obtain ⟨h1, h2, h3⟩ := hz s hs a ha r hr
  exact ⟨by omega, by omega⟩

theorem resolveConflicts_shift_factory (P : Params) (C : ChainCfg) (segs : List Seg) (d : Int)
    (hz : ∀ s ∈ segs, Translate.QL P s ∧ Translate.QR s) :
    resolveConflicts P C (segs.map (shiftSeg d)) = (resolveConflicts P C segs).map (List.map (shiftSeg d)) :=
  PMap.resolveConflicts_factory (Translate.shiftMap_equi d) P C segs hz

theorem alignerAlign_shift (P : Params) (C : ChainCfg) (ref qry : OMap) (peaks : List Int) (rev : Bool) (it : Int) (d : Int) :
    (alignerAlign P C (shiftRef d ref) qry (peaks.map (· + d)) rev it).map (fun r => (r.segments, r.confidence, r.qStart, r.qEnd))
      = (alignerAlign P C ref qry peaks rev it).map (fun r => (r.segments.map (shiftSeg d), r.confidence, r.qStart, r.qEnd)) :=
  PMap.alignerAlign_map (Translate.shiftMap_equi d) P C ref (shiftRef d ref) qry qry rev rev id (fun _ => rfl) peaks _ rfl it
    (fun p _ it => Translate.engineAlign_peak d P.md ref qry rev it p) _ _
    fun _ => congrArg (fun r : Row => (r.segments, r.confidence, r.qStart, r.qEnd))
      (PMap.create_map (Translate.shiftMap_equi d) ..)

end Coma.Proofs
