import Proofs.Mirror
import Proofs.Execute

/-
  C09: `source`, which records the engine's per-process `iteration` counter, is unobservable.  The counter only ends up
  in the `source` fields (`engineAlign_src`) and everything behind the engine carries them along (`PMap.alignerAlign_map`
  for `Mirror.relabelMap id τ`), so the candidate built under another counter value is the same up to `source`
  (`alignerAlign_E`).  Every later pass commutes with the erasure `E` of `source` (as a map on positions: `eM`), so up
  to `E` the run does not depend on the counter (`execute_E`), and nothing that is written reads `source`.
-/
namespace Coma.Proofs
open Coma.Spec

theorem engineAlign_src (τ : Int → Int) (md : Int) (ref qry : OMap) (start stop : Int) (rev : Bool) (it : Int) :
    (engineAlign md ref qry start stop rev it).map (relabelAPos id τ) = engineAlign md ref qry start stop rev (τ it) := by
  have h := PMap.engineOn_map (Mirror.relabelMap id τ) start start rfl (fun _ _ => rfl)
    (fun _ _ => Iff.rfl) (fun _ _ => Iff.rfl)
    (fun a b => by cases a <;> cases b <;> exact Iff.rfl) md it (refWindow md ref start stop) (qry.labels rev)
    (dedup_map (relabelPr id τ) (fun _ _ => Iff.rfl) (fun _ _ => Iff.rfl) (fun _ => rfl) _)
  rw [show (refWindow md ref start stop).map (Mirror.relabelMap id τ).r = _ from List.map_id _,
    show (qry.labels rev).map (Mirror.relabelMap id τ).q = _ from List.map_id _] at h
  exact h.symm

theorem eraseSrc_eq : APos.eraseSrc = relabelAPos id (fun _ => 0) := by funext a; cases a <;> rfl

end Coma.Proofs

namespace Coma.Proofs.SrcBlind
open Coma.Spec Coma.Proofs.Exc

abbrev eP : Pr → Pr := relabelPr id (fun _ => 0)
abbrev eA : APos → APos := relabelAPos id (fun _ => 0)
abbrev eS : Seg → Seg := relabelSeg id (fun _ => 0)
abbrev E : Row → Row := eraseSrcRow

abbrev eM : PMap := Mirror.relabelMap id (fun _ => 0)
theorem eM_equi : eM.Equi := Mirror.relabelMap_equi id _ fun _ _ h => h

@[simp] theorem eP_r (p : Pr) : (eP p).r = p.r := rfl
@[simp] theorem eP_q (p : Pr) : (eP p).q = p.q := rfl
@[simp] theorem eP_shift (p : Pr) : (eP p).shift = p.shift := rfl
@[simp] theorem eP_dist (p : Pr) : (eP p).dist = p.dist := rfl
@[simp] theorem eP_null : eP nullPr = nullPr := rfl
@[simp] theorem lessOnBoth_eP (a o : Pr) : (eP a).lessOnBoth (eP o) = a.lessOnBoth o := rfl
theorem eA_pair? (a : APos) : (eA a).pair? = a.pair?.map eP := Mirror.pair?_relabel _ _ a
@[simp] theorem eS_peak (s : Seg) : (eS s).peak = s.peak := rfl
@[simp] theorem eS_items (s : Seg) : (eS s).items = s.items.map eA := rfl
@[simp] theorem E_segments (r : Row) : (E r).segments = r.segments.map eS := rfl
theorem E_pairs (r : Row) : (E r).pairs = r.pairs.map eP := eM.flatMap_pairs r.segments
@[simp] theorem E_queryId (r : Row) : (E r).queryId = r.queryId := rfl
@[simp] theorem E_referenceId (r : Row) : (E r).referenceId = r.referenceId := rfl
@[simp] theorem E_confidence (r : Row) : (E r).confidence = r.confidence := rfl

theorem getD_map_eP (o : Option Pr) : (o.map eP).getD nullPr = eP (o.getD nullPr) := Option.getD_map eP nullPr o

theorem create_eS (P : Params) (segs : List Seg) (qid rid qlen rlen : Int) (rev : Bool) :
    Row.create P (segs.map eS) qid rid qlen rlen rev = E (Row.create P segs qid rid qlen rlen rev) :=
  PMap.create_map_of_r_pos eM_equi (fun _ => rfl) P segs qid rid qlen rlen rev

theorem resolvePair_e (P : Params) (L R : Seg) :
    resolvePair P (eS L) (eS R) = (resolvePair P L R).map (fun x => (eS x.1, eS x.2)) :=
  -- nothing erasure does is seen by the comparison with the null pair
  PMap.resolvePair_map eM_equi P L R fun _ a _ => ⟨by cases a <;> rfl, fun _ _ => rfl⟩

theorem eS_relabelSeg (τ : Int → Int) (s : Seg) : eS (relabelSeg id τ s) = eS s := by
  show (⟨s.peak, (s.items.map _).map _⟩ : Seg) = ⟨s.peak, s.items.map _⟩
  rw [List.map_map]
  exact congrArg (Seg.mk s.peak) (List.map_congr_left fun a _ => by cases a <;> rfl)

theorem alignerAlign_E (P : Params) (C : ChainCfg) (ref qry : OMap) (peaks : List Int) (rev : Bool) (it it' : Int) :
    (alignerAlign P C ref qry peaks rev it).map E = (alignerAlign P C ref qry peaks rev it').map E := by
  -- the candidate under `it` is the candidate under `it'` with every `source` moved by `it - it'`; erasure forgets that
  have hm := Mirror.relabelMap_equi id (· + (it - it')) fun _ _ h => h
  have h := PMap.alignerAlign_map hm P C ref ref qry qry rev rev (· + (it - it')) (fun _ => Int.add_right_comm ..)
    peaks peaks (List.map_id peaks) it'
    (fun p _ i => (engineAlign_src (· + (it - it')) P.md ref qry p (p + qry.length) rev i).symm) E E fun res => by
      rw [PMap.create_map_of_r_pos hm fun _ => rfl]
      exact congrArg (fun l => ({ Row.create P res qry.id ref.id qry.length ref.length rev with segments := l } : Row))
        ((List.map_map ..).trans (List.map_congr_left fun s _ => eS_relabelSeg _ s))
  rwa [show it' + (it - it') = it by omega] at h

theorem bestRow_E (rows : List Row) : bestRow (rows.map E) = (bestRow rows).map E := by
  unfold bestRow isortDesc
  rw [isort_map E (fun r => - r.confidence) (fun r => - r.confidence) (fun _ => rfl), List.head?_map]

theorem keepRow_E (o : Option Row) : keepRow (o.map E) = (keepRow o).map E := by
  cases o with
  | none => rfl
  | some r =>
    simp only [Option.map_some, keepRow, E_pairs, List.isEmpty_map]
    split <;> rfl

theorem filterMap_keepRow_E (l : List (Option Row)) :
    (l.map (Option.map E)).filterMap keepRow = (l.filterMap keepRow).map E := by
  rw [List.filterMap_map, List.map_filterMap]
  congr 1
  funext o
  simp only [Function.comp, keepRow_E]

theorem perQuery_E (cfg : Cfg) (refs : List OMap) (seeds : List Seed) (q : OMap) (it it' : Int) :
    (perQuery cfg refs seeds q it).map (Option.map E) = (perQuery cfg refs seeds q it').map (Option.map E) := by
  rw [perQuery_eq, perQuery_eq]
  refine map_map_congr (mapM_map_congr _ _ E seeds fun s _ => ?_) fun rows rows' h => by
    rw [← bestRow_E, ← bestRow_E, h]
  unfold seedRow
  split
  · rfl
  · exact alignerAlign_E ..

theorem executeSingle_E (cfg : Cfg) (refs : List OMap) (t : SeedTable) (qs : List OMap) (it it' : Int) :
    (executeSingle cfg refs t qs it).map (List.map E) = (executeSingle cfg refs t qs it').map (List.map E) := by
  rw [executeSingle_eq, executeSingle_eq]
  exact map_map_congr (mapM_map_congr _ _ (Option.map E) qs fun q _ => perQuery_E cfg refs _ q it it')
    fun rs rs' h => by rw [← filterMap_keepRow_E, ← filterMap_keepRow_E, h]

theorem filterBestPerQuery_E (rows : List Row) :
    filterBestPerQuery (rows.map E) = (filterBestPerQuery rows).map E := by
  unfold filterBestPerQuery isortDesc
  rw [isort_map E (fun r => - r.confidence) (fun r => - r.confidence) (fun _ => rfl),
    isort_map E (fun r => r.queryId) (fun r => r.queryId) (fun _ => rfl),
    groupAdj_map E (fun r => r.queryId) (fun r => r.queryId) (fun _ => rfl),
    List.filterMap_map, List.map_filterMap]
  congr 1
  funext g
  simp only [Function.comp, List.head?_map]

theorem sortedPairs_E (r : Row) : (E r).sortedPairs = r.sortedPairs.map eP := by
  unfold Row.sortedPairs
  rw [E_pairs, isort_map eP (fun p : Pr => p.r.pos) (fun p : Pr => p.r.pos) (fun _ => rfl)]

theorem unalignedFragments_E (r : Row) (qs : List OMap) :
    unalignedFragments (E r) qs = unalignedFragments r qs := by
  unfold unalignedFragments
  simp only [sortedPairs_E, List.head?_map, List.getLast?_map, getD_map_eP, eP_q]
  rfl

theorem secondPass_E (cfg : Cfg) (refs : List OMap) (t : SeedTable) (qs : List OMap) (first first' : List Row)
    (it it' : Int) (h : first.map E = first'.map E) :
    (secondPass cfg refs t qs first it).map (List.map E) =
    (secondPass cfg refs t qs first' it').map (List.map E) := by
  have hf : ∀ l : List Row, l.mapM (fun r => unalignedFragments r qs) =
      (l.map E).mapM fun r => unalignedFragments r qs := fun l => by
    rw [List.mapM_map]
    exact mapM_congr _ _ l fun r _ => (unalignedFragments_E r qs).symm
  rw [secondPass_eq, secondPass_eq, hf first, hf first', h]
  refine bind_map_congr (f := id) (f' := id) rfl fun frags _ hfr => ?_
  cases hfr
  refine map_map_congr (executeSingle_E cfg refs t frags.flatten it it') fun rows rows' h => ?_
  have hc : ∀ l : List Row, (l.map flagRest).map E = (l.map E).map flagRest := fun l => by
    rw [List.map_map, List.map_map]; rfl
  rw [hc, hc, h]

theorem checkOverlap_E (a b : Row) (d : Int) : checkOverlap (E a) (E b) d = checkOverlap a b d := rfl

theorem isOneToOne_E (r : Row) : (E r).isOneToOneAndCollinear = r.isOneToOneAndCollinear := by
  unfold Row.isOneToOneAndCollinear
  simp only [E_pairs, List.map_map, List.isEmpty_map]
  rfl

def eJ : List Row × List Row → List Row × List Row := fun x => (x.1.map E, x.2.map E)

theorem joined_E (P : Params) (a : Row) (lr : Seg × Seg) :
    joined P (E a) (eS lr.1, eS lr.2) = (joined P a lr).map E := by
  have hc : Row.create P [eS lr.1, eS lr.2] a.queryId a.referenceId a.queryLength a.referenceLength a.rev = E _ :=
    create_eS P [lr.1, lr.2] _ _ _ _ _
  -- the ids, lengths and strand of `E a` are those of `a`
  show joined P a (eS lr.1, eS lr.2) = _
  unfold joined
  dsimp only
  rw [hc, isOneToOne_E]
  split <;> rfl

theorem joinRows_E (P : Params) (a b : Row) :
    joinRows P (E a) (E b) = (joinRows P a b).map (Option.map E) := by
  rw [joinRows_eq, joinRows_eq, E_pairs, E_pairs, E_segments, E_segments]
  cases a.pairs with
  | nil => rfl
  | cons pa _ =>
    cases b.pairs with
    | nil => rfl
    | cons pb _ =>
      cases a.segments with
      | nil => rfl
      | cons sa _ =>
        cases b.segments with
        | nil => rfl
        | cons sb _ =>
          have key : ∀ L R : Seg, (resolvePair P (eS L) (eS R)).map (joined P (E a)) =
              ((resolvePair P L R).map (joined P a)).map (Option.map E) := fun L R => by
            rw [resolvePair_e, map_map, map_map]
            exact map_congr _ _ _ fun lr _ => joined_E P a lr
          show (if pa.r.pos < pb.r.pos then _ else _ : Except Err (Seg × Seg)).map _ =
            ((if pa.r.pos < pb.r.pos then _ else _ : Except Err (Seg × Seg)).map _).map _
          split
          · exact key sa sb
          · exact key sb sa

theorem resolveGroup_E (P : Params) (d : Int) : ∀ (g : List Row),
    resolveGroup P d (g.map E) = (resolveGroup P d g).map eJ
  | [] | [x] => rfl
  | x :: y :: rest => by
    simp only [List.map_cons, resolveGroup, checkOverlap_E, joinRows_E]
    split
    · rw [map_map, map_map]
      exact map_congr _ _ _ fun o _ => by cases o <;> rfl
    · rfl

theorem resolveGroups_E (P : Params) (d : Int) : ∀ (gs : List (List Row)),
    resolveGroups P d (gs.map (List.map E)) = (resolveGroups P d gs).map eJ
  | [] => rfl
  | g :: gs => by
    rw [List.map_cons, resolveGroups_cons, resolveGroups_cons, resolveGroups_E P d gs, resolveGroup_E]
    cases resolveGroups P d gs with
    | error e => rfl
    | ok js =>
      cases resolveGroup P d g with
      | error e => rfl
      | ok js1 => exact congrArg Except.ok (Prod.ext (List.map_append ..).symm (List.map_append ..).symm)

theorem groupsOf_E (rows : List Row) : groupsOf (rows.map E) = (groupsOf rows).map (List.map E) := by
  unfold groupsOf
  rw [isort_map E _ (fun r => r.referenceId) (fun _ => rfl), groupAdj_map E _ (fun r => r.referenceId) (fun _ => rfl),
    List.flatMap_map, List.map_flatMap]
  refine congrArg (fun f => List.flatMap f _) (funext fun g => ?_)
  rw [isort_map E _ (fun r => r.queryId) (fun _ => rfl), groupAdj_map E _ (fun r => r.queryId) (fun _ => rfl)]

theorem resolveRows_E (P : Params) (d : Int) (rows : List Row) :
    resolveRows P d (rows.map E) = (resolveRows P d rows).map eJ := by
  rw [resolveRows_eq, resolveRows_eq, groupsOf_E, resolveGroups_E]

def eO (o : Output) : Output :=
  { main := o.main.map E, extra := o.extra.map (fun x => (x.1, x.2.map E)) }

theorem filter_ids_E (ids : List Int) (l : List Row) :
    (l.map E).filter (fun r => !ids.contains r.queryId) = (l.filter (fun r => !ids.contains r.queryId)).map E := by
  rw [List.filter_map]; rfl

theorem map_queryId_E (l : List Row) : (l.map E).map (·.queryId) = l.map (·.queryId) := by
  rw [List.map_map]; rfl

theorem pass1_E (mode : Mode) (first second : List Row) :
    pass1 mode (first.map E) (second.map E) = (pass1 mode first second).map E := by
  unfold pass1
  rw [← filterBestPerQuery_E]
  split
  · rw [List.map_append]
  · rfl

theorem finish_E (mode : Mode) (f1 f2 j s : List Row) :
    finish mode (f1.map E) (f2.map E) (j.map E) (s.map E) = eO (finish mode f1 f2 j s) := by
  cases mode <;>
    simp only [finish, eO, List.map_cons, List.map_nil, filterBestPerQuery_E, map_queryId_E, filter_ids_E,
      ← List.map_append, isort_map E (fun r => r.queryId) (fun r => r.queryId) (fun _ => rfl)]

theorem execRest_E (cfg : Cfg) (mode : Mode) (first second : List Row) :
    execRest cfg mode (first.map E) (second.map E) = (execRest cfg mode first second).map eO := by
  simp only [execRest_eq, pass1_E, filterBestPerQuery_E, ← List.map_append, resolveRows_E]
  split
  · simp only [Except.map, eO, List.map_cons, List.map_nil]
  · cases resolveRows cfg.P cfg.maxDifference _ with
    | error e => rfl
    | ok js => simp only [Except.map, eJ, finish_E]

theorem execute_E (cfg : Cfg) (mode : Mode) (refs : List OMap) (t : SeedTable) (qs : List OMap) (it it' : Int) :
    (execute cfg mode refs t qs it).map eO = (execute cfg mode refs t qs it').map eO := by
  rw [execute_eq, execute_eq]
  refine bind_map_congr (executeSingle_E cfg refs t qs it it') fun first first' h1 => ?_
  split
  · simp only [pure, Except.pure, Except.map, eO, ← filterBestPerQuery_E, h1]
  · refine bind_map_congr (secondPass_E cfg refs t qs first first' it it' h1) fun second second' h2 => ?_
    rw [← execRest_E, ← execRest_E, h1, h2]

theorem dedupQueryKeepLast_eP : ∀ (ps : List Pr),
    dedupQueryKeepLast (ps.map eP) = (dedupQueryKeepLast ps).map eP
  | [] => rfl
  | [_] => rfl
  | p :: q :: rest => by
    have ih := dedupQueryKeepLast_eP (q :: rest)
    simp only [List.map_cons] at ih ⊢
    simp only [dedupQueryKeepLast, eP_q, ih]
    split <;> simp

theorem hitWalk_eP : ∀ (fuel : Nat) (refIdx last : Int) (cur : Option Pr) (rest : List Pr) (prevQ : Int),
    hitWalk fuel refIdx last (cur.map eP) (rest.map eP) prevQ = hitWalk fuel refIdx last cur rest prevQ
  | 0, _, _, _, _, _ => rfl
  | fuel + 1, refIdx, last, cur, rest, prevQ => by
    unfold hitWalk
    cases cur with
    | none => rfl
    | some c =>
      simp only [Option.map_some, eP_q, eP_r]
      have h1 := hitWalk_eP fuel (refIdx + 1) last (some c) rest
      simp only [Option.map_some] at h1
      simp only [h1]
      cases rest with
      | nil =>
        simp only [List.map_nil]
        rfl
      | cons n ns =>
        have h2 := hitWalk_eP fuel (refIdx + 1) last (some n) ns c.q.site
        simp only [Option.map_some] at h2
        simp only [List.map_cons, h2]
        rfl

theorem hitEnums_eP (ps : List Pr) : hitEnums (ps.map eP) = hitEnums ps := by
  unfold hitEnums
  rw [dedupQueryKeepLast_eP]
  cases dedupQueryKeepLast ps with
  | nil => rfl
  | cons p qs =>
    simp only [List.map_cons]
    have hl : ((eP p :: qs.map eP).getLast (by simp)).r.site = ((p :: qs).getLast (by simp)).r.site := by
      have : eP p :: qs.map eP = (p :: qs).map eP := rfl
      simp only [this, List.getLast_map, eP_r]
    simp only [hl, eP_r, eP_q]
    exact hitWalk_eP _ _ _ (some p) qs _

theorem cigarOf_eP (agg : List Hit → Except Err (List (Nat × Hit))) (ps : List Pr) :
    cigarOf agg (ps.map eP) = cigarOf agg ps := by
  unfold cigarOf
  rw [hitEnums_eP]
  cases ps <;> rfl

theorem toXRow_E (cfg : Cfg) (agg : List Hit → Except Err (List (Nat × Hit))) (i : Nat) (r : Row) :
    (E r).toXRow cfg (cigarOf agg) i = r.toXRow cfg (cigarOf agg) i := by
  unfold Row.toXRow
  rw [E_pairs, cigarOf_eP, List.map_map]
  rfl

theorem renderRowsFrom_E (cfg : Cfg) : ∀ (i : Nat) (rows : List Row),
    renderRowsFrom cfg i (rows.map E) = renderRowsFrom cfg i rows
  | _, [] => rfl
  | i, r :: rs => by
    simp only [List.map_cons, renderRowsFrom, toXRow_E, renderRowsFrom_E cfg (i + 1) rs]

theorem renderRows_E (cfg : Cfg) (rows : List Row) : renderRows cfg (rows.map E) = renderRows cfg rows :=
  renderRowsFrom_E cfg 1 rows

def renderOut (cfg : Cfg) (out : Output) : Except Err (List (Nat × List String)) := do
  let main ← renderRows cfg out.main
  let extra ← out.extra.mapM fun (n, rows) => do
    let ls ← renderRows cfg rows
    return (n, ls)
  return (0, main) :: extra

/-- stated with `Except.bind` and projections: in this form `rw` and the kernel see the two binds without unfolding
    the `do` block's pattern match -/
theorem runProgram_eq (cfg : Cfg) (mode : Mode) (refRows qryRows : List CRow) (refIds qryIds : List Int)
    (t : SeedTable) (it : Int) :
    runProgram cfg mode refRows qryRows refIds qryIds t it =
      (readMaps refRows qryRows refIds qryIds).bind fun m =>
        (execute cfg mode m.1 t m.2 it).bind (renderOut cfg) := rfl

theorem renderOut_eO (cfg : Cfg) (out : Output) : renderOut cfg (eO out) = renderOut cfg out := by
  unfold renderOut
  simp only [eO, renderRows_E]
  rw [List.mapM_map]
  simp only [Function.comp_def, renderRows_E]

end Coma.Proofs.SrcBlind
