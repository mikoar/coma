import Coma.Passes
import Proofs.ExceptLemmas
import Proofs.SortLemmas
/-
  The run level of Coma/Passes.lean, read once and in its order: every `do` block gets its equation or its `_ok_iff`,
  so that the proofs about runs do not unfold these definitions.  `execute` is the two passes, then `execRest`, which is
  either the two filtered passes ('separate') or `resolveRows` on them followed by what the mode writes (`finish`).
-/
namespace Coma.Proofs
open Coma.Proofs.Exc

theorem find?_id_of_mem (qs : List OMap) (q : OMap) (hq : q ∈ qs) (hn : (qs.map (·.id)).Nodup) :
    qs.find? (fun m => m.id = q.id) = some q := by
  rw [← List.head?_filter, class_singleton (fun (m : OMap) => m.id) hq hn]
  rfl

theorem find?_id_perm (qs qs' : List OMap) (i : Int) (hp : qs.Perm qs') (hn : (qs.map (·.id)).Nodup) :
    qs'.find? (fun q => q.id = i) = qs.find? (fun q => q.id = i) :=
  (find?_eq_of_perm _ hp (class_length_le_one (fun (m : OMap) => m.id) i qs hn)).symm

theorem bestRow_mem {rows : List Row} {r : Row} (h : bestRow rows = some r) : r ∈ rows := by
  unfold bestRow isortDesc at h
  exact mem_isort.mp (List.mem_of_head? h)

def seedRow (cfg : Cfg) (refs : List OMap) (q : OMap) (it : Int) (s : Seed) : Except Err Row :=
  match refs.find? (fun r => r.id = s.refId) with
  | none   => .error .stopIteration
  | some r => alignerAlign cfg.P cfg.C r q s.peaks s.rev it

/-- the early exit on an empty seed list is the general case: the best of no rows is `none` -/
theorem perQuery_eq (cfg : Cfg) (refs : List OMap) (seeds : List Seed) (q : OMap) (it : Int) :
    perQuery cfg refs seeds q it = (seeds.mapM (seedRow cfg refs q it)).map bestRow := by
  unfold perQuery
  cases seeds with
  | nil => rfl
  | cons s ss => exact bind_pure_eq_map _ _

theorem perQuery_origin {cfg : Cfg} {refs : List OMap} {seeds : List Seed} {q : OMap} {it : Int} {row : Row}
    (h : perQuery cfg refs seeds q it = .ok (some row)) :
    ∃ s ∈ seeds, ∃ r ∈ refs, alignerAlign cfg.P cfg.C r q s.peaks s.rev it = .ok row := by
  rw [perQuery_eq] at h
  obtain ⟨rows, hrows, hbest⟩ := (map_ok ..).1 h
  obtain ⟨s, hs, hsr⟩ := mapM_ok_mem _ _ _ hrows row (bestRow_mem hbest.symm)
  unfold seedRow at hsr
  split at hsr
  · cases hsr
  · next r hf => exact ⟨s, hs, r, List.mem_of_find?_eq_some hf, hsr⟩

theorem perQuery_isOk {cfg : Cfg} {refs : List OMap} {seeds : List Seed} {q : OMap} {it : Int}
    (hseeds : ∀ s ∈ seeds, ∃ r ∈ refs, r.id = s.refId)
    (halign : ∀ r ∈ refs, ∀ peaks rev, ∃ row, alignerAlign cfg.P cfg.C r q peaks rev it = .ok row) :
    ∃ o, perQuery cfg refs seeds q it = .ok o := by
  rw [perQuery_eq, map_isOk]
  refine mapM_ok_of_forall _ _ fun s hs => ?_
  obtain ⟨r, hr, hid⟩ := hseeds s hs
  unfold seedRow
  split
  · next hf => exact absurd (by simpa using hid) (List.find?_eq_none.mp hf r hr)
  · next r' hf => exact halign r' (List.mem_of_find?_eq_some hf) s.peaks s.rev

/-- the filter after the ordered map of the first pass -/
def keepRow : Option Row → Option Row
  | some row => if row.pairs.isEmpty then none else some row
  | none     => none

theorem keepRow_some {o : Option Row} {r : Row} (h : keepRow o = some r) : o = some r ∧ r.pairs ≠ [] := by
  unfold keepRow at h
  split at h
  · split at h
    · cases h
    · next hne =>
      cases h
      exact ⟨rfl, fun h0 => hne (by rw [h0]; rfl)⟩
  · cases h

/-- the first-pass row of one molecule, if it is kept (`none` also when its computation raises) -/
def keptRow (cfg : Cfg) (refs : List OMap) (t : SeedTable) (it : Int) (q : OMap) : Option Row :=
  keepRow (toOk (perQuery cfg refs (t.lookup q.key) q it))

theorem executeSingle_eq (cfg : Cfg) (refs : List OMap) (t : SeedTable) (qs : List OMap) (it : Int) :
    executeSingle cfg refs t qs it =
      (qs.mapM fun q => perQuery cfg refs (t.lookup q.key) q it).map (List.filterMap keepRow) :=
  bind_pure_eq_map _ _

theorem executeSingle_ok_iff (cfg : Cfg) (refs : List OMap) (t : SeedTable) (qs : List OMap) (it : Int)
    (rows : List Row) :
    executeSingle cfg refs t qs it = .ok rows ↔
      (∀ q ∈ qs, ∃ o, perQuery cfg refs (t.lookup q.key) q it = .ok o) ∧
      rows = qs.filterMap (keptRow cfg refs t it) := by
  rw [executeSingle_eq]
  exact mapM_filterMap_ok_iff _ keepRow qs rows

theorem executeSingle_origin {cfg : Cfg} {refs : List OMap} {t : SeedTable} {qs : List OMap} {it : Int}
    {rows : List Row} (h : executeSingle cfg refs t qs it = .ok rows) :
    ∀ row ∈ rows, row.pairs ≠ [] ∧ ∃ q ∈ qs, ∃ r ∈ refs, ∃ peaks rev,
      alignerAlign cfg.P cfg.C r q peaks rev it = .ok row := by
  obtain ⟨hall, rfl⟩ := (executeSingle_ok_iff cfg refs t qs it rows).1 h
  intro row hrow
  obtain ⟨q, hq, hk⟩ := List.mem_filterMap.mp hrow
  obtain ⟨o, ho⟩ := hall q hq
  unfold keptRow at hk
  rw [ho, toOk_ok] at hk
  obtain ⟨rfl, hne⟩ := keepRow_some hk
  obtain ⟨s, _, r, hr, ha⟩ := perQuery_origin ho
  exact ⟨hne, q, hq, r, hr, s.peaks, s.rev, ha⟩

theorem executeSingle_total_of_align (cfg : Cfg) (refs : List OMap) (t : SeedTable) (qs : List OMap) (it : Int)
    (hseeds : ∀ q ∈ qs, ∀ s ∈ t.lookup q.key, ∃ r ∈ refs, r.id = s.refId)
    (halign : ∀ r ∈ refs, ∀ q ∈ qs, ∀ peaks rev, ∃ row, alignerAlign cfg.P cfg.C r q peaks rev it = .ok row) :
    ∃ rows, executeSingle cfg refs t qs it = .ok rows :=
  ⟨_, (executeSingle_ok_iff cfg refs t qs it _).2
    ⟨fun q hq => perQuery_isOk (hseeds q hq) fun r hr => halign r hr q hq, rfl⟩⟩

theorem executeSingle_append (cfg : Cfg) (refs : List OMap) (t : SeedTable) (qs1 qs2 : List OMap) (it : Int) :
    executeSingle cfg refs t (qs1 ++ qs2) it =
      (do let a ← executeSingle cfg refs t qs1 it
          let b ← executeSingle cfg refs t qs2 it
          pure (a ++ b)) := by
  simp only [executeSingle_eq, List.mapM_append]
  cases (qs1.mapM fun q => perQuery cfg refs (t.lookup q.key) q it) with
  | error e => rfl
  | ok a =>
    cases (qs2.mapM fun q => perQuery cfg refs (t.lookup q.key) q it) with
    | error e => rfl
    | ok b => exact congrArg Except.ok List.filterMap_append

theorem executeSingle_unalignable (cfg : Cfg) (refs : List OMap) (t : SeedTable) (q : OMap) (qs : List OMap) (it : Int)
    (h : t.lookup q.key = []) :
    executeSingle cfg refs t (q :: qs) it = executeSingle cfg refs t qs it := by
  have hq : perQuery cfg refs (t.lookup q.key) q it = .ok none := by rw [h]; rfl
  rw [executeSingle_eq, executeSingle_eq, List.mapM_cons, hq]
  cases (qs.mapM fun q => perQuery cfg refs (t.lookup q.key) q it) <;> rfl

theorem strictlyAscending_iff : ∀ (xs : List Int), strictlyAscending xs = true ↔ xs.Pairwise (· < ·)
  | [] => by simp [strictlyAscending]
  | [a] => by simp [strictlyAscending]
  | a :: b :: t => by
    have ih := strictlyAscending_iff (b :: t)
    simp only [strictlyAscending, Bool.and_eq_true, decide_eq_true_eq, ih]
    constructor
    · rintro ⟨hab, hp⟩
      refine List.Pairwise.cons ?_ hp
      intro x hx
      rcases List.mem_cons.mp hx with rfl | hx
      · exact hab
      · have := List.rel_of_pairwise_cons hp hx
        omega
    · intro hp
      exact ⟨List.rel_of_pairwise_cons hp (List.mem_cons_self ..), (List.pairwise_cons.mp hp).2⟩

def joined (P : Params) (a : Row) (lr : Seg × Seg) : Option Row :=
  let j := Row.create P [lr.1, lr.2] a.queryId a.referenceId a.queryLength a.referenceLength a.rev
  if j.isOneToOneAndCollinear then some j else none

theorem joined_eq_some {P : Params} {a j : Row} {lr : Seg × Seg} (h : joined P a lr = some j) :
    j = Row.create P [lr.1, lr.2] a.queryId a.referenceId a.queryLength a.referenceLength a.rev ∧
      j.isOneToOneAndCollinear = true := by
  unfold joined at h
  dsimp only at h
  split at h
  · cases h; exact ⟨rfl, ‹_›⟩
  · cases h

theorem joinRows_eq (P : Params) (a b : Row) :
    joinRows P a b =
      match a.pairs, b.pairs, a.segments, b.segments with
      | pa :: _, pb :: _, sa :: _, sb :: _ =>
        (if pa.r.pos < pb.r.pos then resolvePair P sa sb else resolvePair P sb sa).map (joined P a)
      | _, _, _, _ => .error .indexError := by
  unfold joinRows
  generalize a.pairs = xa, b.pairs = xb, a.segments = ya, b.segments = yb
  match xa, xb, ya, yb with
  | pa :: _, pb :: _, sa :: _, sb :: _ =>
    dsimp only
    split <;> (rw [← bind_pure_eq_map]; rfl)
  | [], _, _, _ | _ :: _, [], _, _ | _ :: _, _ :: _, [], _ | _ :: _, _ :: _, _ :: _, [] => rfl

theorem joinRows_cons {P : Params} {a b : Row} {pa pb : Pr} {ta tb : List Pr} {sa sb : Seg} {ua ub : List Seg}
    (h1 : a.pairs = pa :: ta) (h2 : b.pairs = pb :: tb) (h3 : a.segments = sa :: ua) (h4 : b.segments = sb :: ub) :
    joinRows P a b =
      (if pa.r.pos < pb.r.pos then resolvePair P sa sb else resolvePair P sb sa).map (joined P a) := by
  rw [joinRows_eq, h1, h2, h3, h4]

/-- what one (reference, query) group contributes to (joined, separate) -/
def resolveGroup (P : Params) (d : Int) : List Row → Except Err (List Row × List Row)
  | []  => .ok ([], [])
  | [x] => .ok ([], [x])
  | x :: y :: rest =>
    if checkOverlap x y d then
      (joinRows P x y).map fun o => match o with
        | some r => ([r], [])
        | none => ([], x :: y :: rest)
    else .ok ([], x :: y :: rest)

/-- `resolveGroups` works from the last group to the first -/
theorem resolveGroups_cons (P : Params) (d : Int) (g : List Row) (gs : List (List Row)) :
    resolveGroups P d (g :: gs) =
      resolveGroups P d gs >>= fun js => (resolveGroup P d g).map fun js1 => (js1.1 ++ js.1, js1.2 ++ js.2) := by
  rw [resolveGroups]
  cases resolveGroups P d gs with
  | error e => rfl
  | ok js =>
    match g with
    | [] | [x] => rfl
    | x :: y :: rest =>
      show (if checkOverlap x y d = true then _ else _) = (resolveGroup P d (x :: y :: rest)).map _
      rw [resolveGroup]
      by_cases hc : checkOverlap x y d = true
      · rw [if_pos hc, if_pos hc]
        cases joinRows P x y with
        | error e => rfl
        | ok o => cases o <;> rfl
      · rw [if_neg hc, if_neg hc]
        rfl

theorem resolveGroup_ok {P : Params} {d : Int} {g j1 s1 : List Row} (h : resolveGroup P d g = .ok (j1, s1)) :
    (∃ x y rest r, g = x :: y :: rest ∧ checkOverlap x y d = true ∧ joinRows P x y = .ok (some r) ∧
      j1 = [r] ∧ s1 = []) ∨ (j1 = [] ∧ s1 = g) := by
  match g, h with
  | [], h | [x], h => cases h; exact .inr ⟨rfl, rfl⟩
  | x :: y :: rest, h =>
    rw [resolveGroup] at h
    split at h
    · next hc =>
      obtain ⟨o, hj, h⟩ := (map_ok ..).1 h
      cases o with
      | some r => cases h; exact .inl ⟨x, y, rest, r, rfl, hc, hj, rfl, rfl⟩
      | none => cases h; exact .inr ⟨rfl, rfl⟩
    · cases h; exact .inr ⟨rfl, rfl⟩

theorem resolveGroups_ind {P : Params} {d : Int} (Q : List (List Row) → List Row → List Row → Prop)
    (nil : Q [] [] [])
    (cons : ∀ g gs j s j1 s1, resolveGroups P d gs = .ok (j, s) → Q gs j s →
      resolveGroup P d g = .ok (j1, s1) → Q (g :: gs) (j1 ++ j) (s1 ++ s)) :
    ∀ {gs J S}, resolveGroups P d gs = .ok (J, S) → Q gs J S
  | [], J, S, h => by cases h; exact nil
  | g :: gs, J, S, h => by
    rw [resolveGroups_cons] at h
    obtain ⟨js, hr, h⟩ := (bind_ok ..).1 h
    obtain ⟨js1, hs, h⟩ := (map_ok ..).1 h
    cases h
    exact cons g gs js.1 js.2 js1.1 js1.2 hr (resolveGroups_ind Q nil cons hr) hs

/-- the list of groups `resolveRows` iterates over -/
def groupsOf (rows : List Row) : List (List Row) :=
  (groupAdj (fun r => r.referenceId) (isort (fun r => r.referenceId) rows)).flatMap
    fun g => groupAdj (fun r => r.queryId) (isort (fun r => r.queryId) g)

theorem resolveRows_eq (P : Params) (d : Int) (rows : List Row) :
    resolveRows P d rows = resolveGroups P d (groupsOf rows) := rfl

def flagRest (r : Row) : Row := { r with alignedRest := true }

theorem secondPass_eq (cfg : Cfg) (refs : List OMap) (t : SeedTable) (qs : List OMap) (first : List Row) (it : Int) :
    secondPass cfg refs t qs first it = (first.mapM fun r => unalignedFragments r qs) >>= fun frags =>
      (executeSingle cfg refs t frags.flatten it).map (List.map flagRest) := by
  unfold secondPass
  exact congrArg _ (funext fun frags => bind_pure_eq_map _ _)

theorem secondPass_ok_iff {cfg : Cfg} {refs : List OMap} {t : SeedTable} {qs : List OMap} {first : List Row}
    {it : Int} {second : List Row} : secondPass cfg refs t qs first it = .ok second ↔
      ∃ frags rows, first.mapM (fun r => unalignedFragments r qs) = .ok frags ∧
        executeSingle cfg refs t frags.flatten it = .ok rows ∧
        second = rows.map flagRest := by
  rw [secondPass_eq, bind_ok]
  refine exists_congr fun frags => ?_
  rw [map_ok, exists_and_left]

theorem secondPass_congr {cfg : Cfg} {refs : List OMap} {t : SeedTable} {qs qs' : List OMap} {first : List Row} {it : Int}
    (h : ∀ r ∈ first, unalignedFragments r qs = unalignedFragments r qs') :
    secondPass cfg refs t qs first it = secondPass cfg refs t qs' first it := by
  rw [secondPass_eq, secondPass_eq, mapM_congr _ _ first h]

/-- the part of `execute` after the two passes (`mode ≠ single`), word for word -/
def execRest (cfg : Cfg) (mode : Mode) (first second : List Row) : Except Err Output := do
  let first' := if mode = .best then first ++ second else first
  let f1 := filterBestPerQuery first'
  let f2 := filterBestPerQuery second
  if mode = .separate then return { main := filterBestPerQuery f1, extra := [(1, f2)] }
  let (joined, separate) ← resolveRows cfg.P cfg.maxDifference (f1 ++ f2)
  match mode with
  | .best =>
    let ids := joined.map (·.queryId)
    let bestRows := f1.filter fun r => !ids.contains r.queryId
    return { main := filterBestPerQuery (isort (fun r => r.queryId) (joined ++ bestRows)) }
  | .joined => return { main := filterBestPerQuery joined, extra := [(1, separate)] }
  | _       => return { main := filterBestPerQuery joined, extra := [(1, f1), (2, f2)] }

/-- the rows of the first file before `resolveRows`: in mode 'best' both passes compete -/
def pass1 (mode : Mode) (first second : List Row) : List Row :=
  filterBestPerQuery (if mode = .best then first ++ second else first)

/-- what a mode writes, given the two filtered passes and the result of `resolveRows` -/
def finish (mode : Mode) (f1 f2 joined separate : List Row) : Output :=
  match mode with
  | .best => { main := filterBestPerQuery (isort (fun r => r.queryId)
      (joined ++ f1.filter fun r => !(joined.map (·.queryId)).contains r.queryId)) }
  | .joined => { main := filterBestPerQuery joined, extra := [(1, separate)] }
  | _ => { main := filterBestPerQuery joined, extra := [(1, f1), (2, f2)] }

theorem execRest_eq (cfg : Cfg) (mode : Mode) (first second : List Row) :
    execRest cfg mode first second =
      if mode = .separate then
        .ok { main := filterBestPerQuery (pass1 mode first second), extra := [(1, filterBestPerQuery second)] }
      else (resolveRows cfg.P cfg.maxDifference (pass1 mode first second ++ filterBestPerQuery second)).map
        fun js => finish mode (pass1 mode first second) (filterBestPerQuery second) js.1 js.2 := by
  unfold execRest
  by_cases hs : mode = .separate
  · simp only [if_pos hs]
    rfl
  · simp only [if_neg hs]
    show (resolveRows cfg.P cfg.maxDifference (pass1 mode first second ++ filterBestPerQuery second) >>= _) = _
    cases resolveRows cfg.P cfg.maxDifference (pass1 mode first second ++ filterBestPerQuery second) with
    | error e => rfl
    | ok js =>
      -- both sides are the same `match mode with …`, once inline and once as `finish`, so the
      -- match is split generically: `cases mode <;> rfl` also works but is slow to check
      show (match mode with | .best => _ | .joined => _ | _ => _) = _
      unfold finish
      split <;> rfl

theorem execRest_separate (cfg : Cfg) (first second : List Row) :
    execRest cfg .separate first second =
      .ok { main := filterBestPerQuery (filterBestPerQuery first), extra := [(1, filterBestPerQuery second)] } := rfl

theorem execRest_ok_iff {cfg : Cfg} {mode : Mode} {first second : List Row} {o : Output} (hm : mode ≠ .separate) :
    execRest cfg mode first second = .ok o ↔
      ∃ j s, resolveRows cfg.P cfg.maxDifference (pass1 mode first second ++ filterBestPerQuery second) = .ok (j, s) ∧
        o = finish mode (pass1 mode first second) (filterBestPerQuery second) j s := by
  rw [execRest_eq, if_neg hm, map_ok]
  exact ⟨fun ⟨(j, s), h, e⟩ => ⟨j, s, h, e⟩, fun ⟨j, s, h, e⟩ => ⟨(j, s), h, e⟩⟩

theorem execute_eq (cfg : Cfg) (mode : Mode) (refs : List OMap) (t : SeedTable) (qs : List OMap) (it : Int) :
    execute cfg mode refs t qs it = (do
      let first ← executeSingle cfg refs t qs it
      if mode = .single then return { main := filterBestPerQuery first }
      let second ← secondPass cfg refs t qs first it
      execRest cfg mode first second) := rfl

theorem execute_ok_iff {cfg : Cfg} {mode : Mode} {refs : List OMap} {t : SeedTable} {qs : List OMap} {it : Int}
    {o : Output} : execute cfg mode refs t qs it = .ok o ↔
      ∃ first, executeSingle cfg refs t qs it = .ok first ∧
        if mode = .single then o = { main := filterBestPerQuery first }
        else ∃ second, secondPass cfg refs t qs first it = .ok second ∧
          execRest cfg mode first second = .ok o := by
  rw [execute_eq, bind_ok]
  refine exists_congr fun first => and_congr_right fun _ => ?_
  split
  · exact ⟨fun h => (Except.ok.inj h).symm, fun h => h ▸ rfl⟩
  · exact bind_ok _ _ _

theorem execute_of_passes {cfg : Cfg} {mode : Mode} {refs : List OMap} {t : SeedTable} {qs : List OMap} {it : Int}
    {first second : List Row} (h1 : executeSingle cfg refs t qs it = .ok first)
    (h2 : secondPass cfg refs t qs first it = .ok second) (hm : mode ≠ .single) :
    execute cfg mode refs t qs it = execRest cfg mode first second := by
  rw [execute_eq, h1]
  show (if mode = .single then _ else _) = _
  rw [if_neg hm, h2]
  rfl

theorem execute_congr {cfg : Cfg} {mode : Mode} {refs : List OMap} {t : SeedTable} {qs qs' : List OMap} {it : Int}
    (h1 : executeSingle cfg refs t qs it = executeSingle cfg refs t qs' it)
    (h2 : ∀ first, executeSingle cfg refs t qs' it = .ok first →
      ∀ r ∈ first, unalignedFragments r qs = unalignedFragments r qs') :
    execute cfg mode refs t qs it = execute cfg mode refs t qs' it := by
  rw [execute_eq, execute_eq, h1]
  cases he : executeSingle cfg refs t qs' it with
  | error e => rfl
  | ok first =>
    show (if mode = .single then _ else secondPass cfg refs t qs first it >>= _) = _
    rw [secondPass_congr (h2 first he)]
    rfl

theorem executeSingle_congr_refs {cfg : Cfg} {refs refs' : List OMap}
    (h : ∀ i : Int, refs'.find? (fun r => r.id = i) = refs.find? (fun r => r.id = i)) :
    @executeSingle cfg refs' = @executeSingle cfg refs := by
  have hs : seedRow cfg refs' = seedRow cfg refs := by
    funext q it s
    unfold seedRow
    rw [h]
  funext t qs it
  simp only [executeSingle_eq, perQuery_eq, hs]

theorem execute_congr_refs {cfg : Cfg} {mode : Mode} {refs refs' : List OMap}
    (h : ∀ i : Int, refs'.find? (fun r => r.id = i) = refs.find? (fun r => r.id = i)) :
    @execute cfg mode refs' = @execute cfg mode refs := by
  funext t qs it
  simp only [execute_eq, secondPass_eq, executeSingle_congr_refs h]

theorem runProgram_congr {cfg : Cfg} {mode : Mode} {refRows refRows' qryRows qryRows' : List CRow}
    {refIds refIds' qryIds qryIds' : List Int} {t : SeedTable} {it : Int}
    (hr : readCmap 1 refRows refIds = readCmap 1 refRows' refIds')
    (hq : readCmap 1 qryRows qryIds = readCmap 1 qryRows' qryIds') :
    runProgram cfg mode refRows qryRows refIds qryIds t it =
      runProgram cfg mode refRows' qryRows' refIds' qryIds' t it := by
  unfold runProgram readMaps
  rw [hr, hq]

end Coma.Proofs
