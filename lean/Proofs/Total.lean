import Props.Defs
import Proofs.Compose
import Proofs.Fields
import Proofs.Modes
import Proofs.Cigar
/-
  C07: the run never raises (`execute_total_weak`).  The chain follows `execute`: every candidate can be built
  (`alignerAlign_total_weak` of Proofs/Compose.lean), so the first pass is total; the start and end of a first-pass row
  are coordinates of labels of its query, so its fragments can be cut and are again weakly ascending maps, so the second
  pass is total; the first segment of a candidate is empty or keeps a pair (`GoodRow`), which is all a join needs, so
  `resolveRows` and the mode dispatch are total.
-/
namespace Coma.Proofs
open Coma.Spec Coma.Proofs.Compose Coma.Proofs.Fields Coma.Proofs.Exc

theorem executeSingle_total_weak (cfg : Cfg) (hP : GoodParams cfg.P) (refs : List OMap) (t : SeedTable) (qs : List OMap) (it : Int)
    (hrefs : ∀ r ∈ refs, Ascending r.positions) (hqs : ∀ q ∈ qs, Ascending q.positions)
    (hseeds : ∀ q ∈ qs, ∀ s ∈ t.lookup q.key, ∃ r ∈ refs, r.id = s.refId) :
    ∃ rows, executeSingle cfg refs t qs it = .ok rows :=
  executeSingle_total_of_align cfg refs t qs it hseeds
    (fun r hr q hq peaks rev => alignerAlign_total_weak cfg.P cfg.C hP r q peaks rev it (hrefs r hr) (hqs q hq))

namespace Total

/-- what a join needs of a row -/
def GoodRow (r : Row) : Prop :=
  r.pairs ≠ [] ∧ ∀ s, r.segments.head? = some s → s.items = [] ∨ s.pairs ≠ []

theorem prefix_first {l c : Seg} (hF : FactoryLike c) (h : l.items <+: c.items) :
    l.items = [] ∨ l.pairs ≠ [] := by
  rcases hF.2.first with h0 | ⟨p, hp⟩
  · left
    rw [h0] at h
    exact List.prefix_nil.mp h
  · cases hl : l.items with
    | nil => exact Or.inl rfl
    | cons a t =>
      right
      obtain ⟨u, hu⟩ := h
      rw [hl] at hu
      rw [← hu] at hp
      simp only [List.cons_append, List.head?_cons, Option.some.injEq] at hp
      subst hp
      simp [Seg.pairs, hl, APos.pair?]

/-- the first segment that conflict resolution returns is a prefix of a factory segment, which starts on a pair -/
theorem resolveConflicts_first (P : Params) (C : ChainCfg) (segs res : List Seg)
    (hF : ∀ s ∈ segs, FactoryLike s) (h : resolveConflicts P C segs = .ok res) :
    ∀ s, res.head? = some s → s.items = [] ∨ s.pairs ≠ [] := by
  intro s hs
  rcases resolveConflicts_cases P C segs with h' | ⟨_, h'⟩ | ⟨_, h'⟩ | ⟨c, cs, hch, h'⟩
  · cases h'.symm.trans h
    exact prefix_first (hF s (List.mem_of_mem_head? hs)) List.prefix_rfl
  · cases h'.symm.trans h
  · cases h'.symm.trans h
    cases hs
  · have hsub := chainSegs_subset hch
    have hc := hF c (hsub c List.mem_cons_self)
    -- the first result of the pass is a prefix of the chain's first segment
    obtain ⟨_, _, hB, _, ⟨hd, tl, rfl, hpre⟩, _⟩ := ConflictAll.pass_spec P cs c c hc.1 (List.suffix_refl _) rfl
      fun r hr => hF r (hsub r (List.mem_cons_of_mem _ hr))
    obtain ⟨_, hB'⟩ := (ConflictAll.resolveFrom_ok_iff _ _ _).mp (h'.symm.trans h)
    cases hB.symm.trans hB'
    obtain rfl : hd = s := Option.some.inj hs
    exact prefix_first hc hpre

end Total
open Total

theorem alignerAlign_first_segment_weak (P : Params) (C : ChainCfg) (hP : GoodParams P) (ref qry : OMap) (peaks : List Int)
    (rev : Bool) (it : Int) (hr : Ascending ref.positions) (hq : Ascending qry.positions)
    (row : Row) (h : alignerAlign P C ref qry peaks rev it = .ok row) :
    ∀ s, row.segments.head? = some s → s.items = [] ∨ s.pairs ≠ [] := by
  obtain ⟨segs, res, hsegs, hres, rfl⟩ := alignerAlign_ok_iff.mp h
  refine resolveConflicts_first P C segs res (fun s hs => ?_) hres
  obtain ⟨_, _, _, hF, _⟩ := segmentsOfPeaks_segments_ok P hP hr hq hsegs s hs
  exact hF

theorem executeSingle_good_weak (cfg : Cfg) (hP : GoodParams cfg.P) (refs : List OMap) (t : SeedTable)
    (qs : List OMap) (it : Int)
    (hrefs : ∀ r ∈ refs, Ascending r.positions) (hqs : ∀ q ∈ qs, Ascending q.positions)
    (rows : List Row) (h : executeSingle cfg refs t qs it = .ok rows) : ∀ r ∈ rows, GoodRow r := by
  intro row hrow
  obtain ⟨hpairs, q, hq, r, hr, peaks, rev, ha⟩ := executeSingle_origin h row hrow
  exact ⟨hpairs,
    alignerAlign_first_segment_weak cfg.P cfg.C hP r q peaks rev it (hrefs r hr) (hqs q hq) row ha⟩

theorem create_fwd_ends (P : Params) (res : List Seg) (qid rid ql rl : Int)
    (hp : (Row.create P res qid rid ql rl false).pairs ≠ []) :
    (∃ p ∈ (Row.create P res qid rid ql rl false).pairs, (Row.create P res qid rid ql rl false).qStart = p.q.pos) ∧
    (∃ p ∈ (Row.create P res qid rid ql rl false).pairs, (Row.create P res qid rid ql rl false).qEnd = p.q.pos) := by
  -- they are read off the first and the last pair of the sorted pairs, which is not empty
  have hs : isort (fun (p : Pr) => p.r.pos) (res.flatMap Seg.pairs) ≠ [] :=
    fun h0 => hp ((isort_eq_nil ..).mp h0)
  have hfirst : (isort (fun (p : Pr) => p.r.pos) (res.flatMap Seg.pairs)).head?.getD nullPr ∈ res.flatMap Seg.pairs :=
    mem_isort.mp (by rw [List.head?_eq_some_head hs]; exact List.head_mem hs)
  have hlast : (isort (fun (p : Pr) => p.r.pos) (res.flatMap Seg.pairs)).getLast?.getD nullPr ∈ res.flatMap Seg.pairs :=
    mem_isort.mp (by rw [List.getLast?_eq_some_getLast hs]; exact List.getLast_mem hs)
  exact ⟨⟨_, hfirst, rfl⟩, ⟨_, hlast, rfl⟩⟩

theorem unalignedFragments_ok_of_index (row : Row) (queries : List OMap) (q : OMap)
    (hfind : queries.find? (fun m => m.id = row.queryId) = some q)
    (hidx : row.rev = false → (∃ i, indexOf? row.qStart q.positions = some i) ∧
      (∃ j, indexOf? row.qEnd q.positions = some j)) :
    ∃ frags, unalignedFragments row queries = .ok frags := by
  have hspec := unalignedFragments_spec row queries q hfind
  cases h : unalignedFragments row queries with
  | ok frags => exact ⟨frags, rfl⟩
  | error e =>
    rw [h] at hspec
    obtain ⟨⟨i, hi⟩, ⟨j, hj⟩⟩ := hidx hspec.1
    rcases hspec.2 with h' | h'
    · rw [hi] at h'; cases h'
    · rw [hj] at h'; cases h'

/-- the look-ups of the row's query start / end succeed also when the query has coincident labels at exactly those
    coordinates: `positions.index` then finds the first of them, which need not be the paired one; a fragment is a
    slice of the query, hence again weakly ascending -/
theorem unalignedFragments_total_weak (P : Params) (C : ChainCfg) (hP : GoodParams P) (ref q : OMap) (peaks : List Int)
    (rev : Bool) (it : Int) (hr : Ascending ref.positions) (hq : Ascending q.positions)
    (row : Row) (h : alignerAlign P C ref q peaks rev it = .ok row) (hp : row.pairs ≠ [])
    (queries : List OMap) (hfind : queries.find? (fun m => m.id = row.queryId) = some q) :
    ∃ frags, unalignedFragments row queries = .ok frags ∧
      ∀ f ∈ frags, Ascending f.positions ∧ f.id = q.id := by
  obtain ⟨hqid, _, _, _, hrev, _, _⟩ := alignerAlign_fields P C ref q peaks rev it row h
  have hreal := alignerAlign_labels_real_weak P C hP ref q peaks rev it hr hq row h
  have hidx : row.rev = false → (∃ i, indexOf? row.qStart q.positions = some i) ∧
      (∃ j, indexOf? row.qEnd q.positions = some j) := by
    intro hrf
    rw [hrev] at hrf
    subst hrf
    obtain ⟨_, res, _, _, hres⟩ := alignerAlign_ok_iff.mp h
    have key : ∀ p ∈ row.pairs, ∃ i, indexOf? p.q.pos q.positions = some i := by
      intro p hpm
      have hl := (hreal p hpm).2
      rw [(labels_spec q false).2] at hl
      obtain ⟨k, x, hk, _, hx⟩ := hl
      apply indexOf_some
      simp only [Bool.false_eq_true, if_false] at hx
      rw [hx]
      exact List.mem_of_getElem? hk
    subst hres
    obtain ⟨⟨p1, hp1, e1⟩, ⟨p2, hp2, e2⟩⟩ := create_fwd_ends P res q.id ref.id q.length ref.length hp
    rw [e1, e2]
    exact ⟨key p1 hp1, key p2 hp2⟩
  obtain ⟨frags, hfr⟩ := unalignedFragments_ok_of_index row queries q hfind hidx
  refine ⟨frags, hfr, fun f hf => ?_⟩
  obtain ⟨j, i, hs⟩ := unalignedFragments_shape row queries q frags hfind hfr
  rcases hs f hf with rfl | rfl
  · obtain ⟨t, ht⟩ := pySliceTo_eq_take q.positions j
    exact ⟨show Ascending (pySliceTo q.positions j) from ht ▸ hq.sublist (List.take_sublist _ _), hqid⟩
  · obtain ⟨d, hd⟩ := pySliceFrom_eq_drop q.positions i
    exact ⟨show Ascending (pySliceFrom q.positions i) from hd ▸ hq.sublist (List.drop_sublist _ _), hqid⟩

theorem firstPass_frags_weak (cfg : Cfg) (hP : GoodParams cfg.P) (refs : List OMap) (t : SeedTable) (qs : List OMap) (it : Int)
    (hrefs : ∀ r ∈ refs, Ascending r.positions) (hqs : ∀ q ∈ qs, Ascending q.positions)
    (hids : (qs.map (·.id)).Nodup)
    (first : List Row) (h1 : executeSingle cfg refs t qs it = .ok first) :
    ∃ frags, first.mapM (fun r => unalignedFragments r qs) = .ok frags ∧
      ∀ f ∈ frags.flatten, Ascending f.positions := by
  -- row by row: a first-pass row is a candidate built for one of the queries, which its id finds again
  have hrow : ∀ row ∈ first, ∃ fl, unalignedFragments row qs = .ok fl ∧ ∀ f ∈ fl, Ascending f.positions := by
    intro row hrowm
    obtain ⟨hpairs, q, hq, r, hr, peaks, rev, ha⟩ := executeSingle_origin h1 row hrowm
    have hfind : qs.find? (fun m => m.id = row.queryId) = some q := by
      rw [(alignerAlign_fields _ _ _ _ _ _ _ _ ha).1]; exact find?_id_of_mem qs q hq hids
    obtain ⟨fl, hfl, hfs⟩ := unalignedFragments_total_weak cfg.P cfg.C hP r q peaks rev it (hrefs r hr) (hqs q hq)
      row ha hpairs qs hfind
    exact ⟨fl, hfl, fun f hf => (hfs f hf).1⟩
  obtain ⟨frags, hfrags⟩ := mapM_ok_of_forall (fun r => unalignedFragments r qs) first
    (fun row hm => (hrow row hm).imp fun _ h => h.1)
  refine ⟨frags, hfrags, fun f hf => ?_⟩
  obtain ⟨fl, hfl, hffl⟩ := List.mem_flatten.mp hf
  obtain ⟨row, hrowm, he⟩ := mapM_ok_mem _ _ _ hfrags fl hfl
  obtain ⟨fl', he', hall⟩ := hrow row hrowm
  cases he.symm.trans he'
  exact hall f hffl

theorem secondPass_total_weak (cfg : Cfg) (hP : GoodParams cfg.P) (refs : List OMap) (t : SeedTable) (qs : List OMap) (it : Int)
    (hrefs : ∀ r ∈ refs, Ascending r.positions) (hqs : ∀ q ∈ qs, Ascending q.positions)
    (hids : (qs.map (·.id)).Nodup)
    (hseeds : ∀ k, ∀ s ∈ t.lookup k, ∃ r ∈ refs, r.id = s.refId)
    (first : List Row) (h1 : executeSingle cfg refs t qs it = .ok first) :
    ∃ second, secondPass cfg refs t qs first it = .ok second ∧ ∀ r ∈ second, GoodRow r := by
  obtain ⟨frags, hfrags, hsa⟩ := firstPass_frags_weak cfg hP refs t qs it hrefs hqs hids first h1
  obtain ⟨rows, hrows⟩ := executeSingle_total_weak cfg hP refs t frags.flatten it hrefs hsa
    (fun q _ => hseeds q.key)
  refine ⟨_, secondPass_ok_iff.mpr ⟨frags, rows, hfrags, hrows, rfl⟩, fun r hr => ?_⟩
  obtain ⟨r0, hr0, rfl⟩ := List.mem_map.mp hr
  exact executeSingle_good_weak cfg hP refs t frags.flatten it hrefs hsa rows hrows r0 hr0

theorem joinRows_total (P : Params) {a b : Row} (ha : GoodRow a) (hb : GoodRow b) : ∃ o, joinRows P a b = .ok o := by
  -- a row with pairs has a first segment
  have segs_of : ∀ r : Row, r.pairs ≠ [] → ∃ s t, r.segments = s :: t := fun r hr =>
    List.exists_cons_of_ne_nil fun h0 => hr (by rw [Row.pairs, h0]; rfl)
  obtain ⟨pa, ta, hpa⟩ := List.exists_cons_of_ne_nil ha.1
  obtain ⟨pb, tb, hpb⟩ := List.exists_cons_of_ne_nil hb.1
  obtain ⟨sa, ua, hsa⟩ := segs_of a ha.1
  obtain ⟨sb, ub, hsb⟩ := segs_of b hb.1
  have hA := ha.2 sa (by rw [hsa]; rfl)
  have hB := hb.2 sb (by rw [hsb]; rfl)
  have tot : ∀ L R : Seg, (L.items = [] ∨ L.pairs ≠ []) → (R.items = [] ∨ R.pairs ≠ []) →
      ∃ lr, resolvePair P L R = .ok lr := by
    intro L R h1 h2
    obtain ⟨l, r, br, h⟩ := resolvePairB_total_of_pairs P L R h1 h2
    exact ⟨(l, r), ConflictAll.resolvePair_ok_iff.mpr ⟨br, h⟩⟩
  rw [joinRows_cons hpa hpb hsa hsb, map_isOk]
  split
  · exact tot sa sb hA hB
  · exact tot sb sa hB hA

theorem resolveGroups_total (P : Params) (d : Int) : ∀ (gs : List (List Row)),
    (∀ g ∈ gs, ∀ x ∈ g, GoodRow x) → ∃ o, resolveGroups P d gs = .ok o
  | [], _ => ⟨_, rfl⟩
  | g :: gs, h => by
    obtain ⟨o, ih⟩ := resolveGroups_total P d gs (fun g' hg' => h g' (List.mem_cons_of_mem _ hg'))
    rw [resolveGroups_cons, ih]
    refine (map_isOk (resolveGroup P d g) _).2 ?_
    match g, h g List.mem_cons_self with
    | [], _ | [x], _ => exact ⟨_, rfl⟩
    | x :: y :: rest, hg =>
      rw [resolveGroup]
      split
      · exact (map_isOk ..).2
          (joinRows_total P (hg x List.mem_cons_self) (hg y (List.mem_cons_of_mem _ List.mem_cons_self)))
      · exact ⟨_, rfl⟩

theorem resolveRows_total (P : Params) (d : Int) (rows : List Row) (h : ∀ x ∈ rows, GoodRow x) :
    ∃ o, resolveRows P d rows = .ok o := by
  rw [resolveRows_eq]
  exact resolveGroups_total P d _ (fun g hg x hx => h x (Modes.groupsOf_mem hg x hx))

theorem execRest_total (cfg : Cfg) (mode : Mode) (first second : List Row)
    (h1 : ∀ r ∈ first, GoodRow r) (h2 : ∀ r ∈ second, GoodRow r) :
    ∃ o, execRest cfg mode first second = .ok o := by
  by_cases hs : mode = .separate
  · exact hs ▸ ⟨_, execRest_separate cfg first second⟩
  · have hg : ∀ r ∈ pass1 mode first second ++ filterBestPerQuery second, GoodRow r := by
      intro r hr
      rcases List.mem_append.mp hr with hr | hr
      · have hr := Select.fbq_mem _ r hr
        split at hr
        · exact (List.mem_append.mp hr).elim (h1 r) (h2 r)
        · exact h1 r hr
      · exact h2 r (Select.fbq_mem _ r hr)
    obtain ⟨⟨j, s⟩, h⟩ := resolveRows_total cfg.P cfg.maxDifference _ hg
    exact ⟨_, (execRest_ok_iff hs).mpr ⟨j, s, h, rfl⟩⟩

theorem execute_total_weak (cfg : Cfg) (mode : Mode) (hP : GoodParams cfg.P) (refs : List OMap) (t : SeedTable) (qs : List OMap) (it : Int)
    (hrefs : ∀ r ∈ refs, Ascending r.positions) (hqs : ∀ q ∈ qs, Ascending q.positions ∧ q.shift = 0)
    (hids : (qs.map (·.id)).Nodup)
    (hseeds : ∀ k, ∀ s ∈ t.lookup k, ∃ r ∈ refs, r.id = s.refId) :
    ∃ out, execute cfg mode refs t qs it = .ok out := by
  have hqa : ∀ q ∈ qs, Ascending q.positions := fun q hq => (hqs q hq).1
  obtain ⟨first, h1⟩ := executeSingle_total_weak cfg hP refs t qs it hrefs hqa (fun q _ => hseeds q.key)
  obtain ⟨second, h2, hg2⟩ := secondPass_total_weak cfg hP refs t qs it hrefs hqa hids hseeds first h1
  obtain ⟨o, ho⟩ := execRest_total cfg mode first second
    (executeSingle_good_weak cfg hP refs t qs it hrefs hqa first h1) hg2
  by_cases hm : mode = .single
  · exact ⟨_, execute_ok_iff.mpr ⟨first, h1, by rw [if_pos hm]⟩⟩
  · exact ⟨o, (execute_of_passes h1 h2 hm).trans ho⟩

theorem execute_total (cfg : Cfg) (mode : Mode) (hP : GoodParams cfg.P) (refs : List OMap) (t : SeedTable) (qs : List OMap) (it : Int)
    (hrefs : ∀ r ∈ refs, StrictAscending r.positions) (hqs : ∀ q ∈ qs, StrictAscending q.positions ∧ q.shift = 0)
    (hids : (qs.map (·.id)).Nodup)
    (hseeds : ∀ k, ∀ s ∈ t.lookup k, ∃ r ∈ refs, r.id = s.refId) :
    ∃ out, execute cfg mode refs t qs it = .ok out :=
  execute_total_weak cfg mode hP refs t qs it (fun r hr => Compose.asc_of_strict (hrefs r hr))
    (fun q hq => ⟨Compose.asc_of_strict (hqs q hq).1, (hqs q hq).2⟩) hids hseeds

/-- the HitEnum walk is total on valid matchings -/
theorem renderRows_total_of_valid (cfg : Cfg) (rows : List Row)
    (hv : ∀ r ∈ rows, r.pairs = [] ∨ ValidMatching r.rev (sitePairs r.pairs)) :
    ∃ lines, renderRows cfg rows = .ok lines := by
  unfold renderRows
  generalize 1 = i
  induction rows generalizing i with
  | nil => exact ⟨[], rfl⟩
  | cons r rs ih =>
    obtain ⟨tl, htl⟩ := ih (fun x hx => hv x (List.mem_cons_of_mem _ hx)) (i + 1)
    obtain ⟨s, hs⟩ : ∃ s, cigarOf aggregate r.pairs = .ok s := by
      cases hp : r.pairs with
      | nil => exact ⟨"", rfl⟩
      | cons p ps =>
        have hvr := (hv r List.mem_cons_self).resolve_left (by rw [hp]; exact List.cons_ne_nil _ _)
        obtain ⟨s, hs, _⟩ := cigar_nonempty r.rev p ps (hp ▸ hvr)
        exact ⟨s, hs⟩
    exact ⟨_, by rw [renderRowsFrom, Row.toXRow, hs, htl]; rfl⟩

end Coma.Proofs
