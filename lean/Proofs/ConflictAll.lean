import Proofs.Conflict

/-
  The consecutive pass of the conflict resolver.  `resolvePair` and `resolveFrom` are the branch-recording `resolvePairB`
  and `resolveFromB` with the record dropped.  What a step hands on is a suffix of a factory-like segment, and so `LeftOK`
  again (`leftOK_of_suffix`): with that as the invariant, one induction (`pass_spec`) shows that the pass does not
  raise, that every result is a sub-run of its input, and that neighbours are separated.
-/
namespace Coma.Proofs.ConflictAll
open Coma.Spec

theorem resolvePair_eq (P : Params) (L R : Seg) :
    resolvePair P L R = (resolvePairB P L R).map fun x => (x.1, x.2.1) :=
  Exc.bind_pure_eq_map ..

theorem resolvePair_ok_iff {P : Params} {L R l r : Seg} :
    resolvePair P L R = .ok (l, r) ↔ ∃ b, resolvePairB P L R = .ok (l, r, b) := by
  rw [resolvePair_eq, Exc.map_ok]
  exact ⟨fun ⟨⟨_, _, b⟩, h, e⟩ => ⟨b, by cases e; exact h⟩, fun ⟨b, h⟩ => ⟨_, h, rfl⟩⟩

theorem resolveFrom_eq (P : Params) : ∀ (cs : List Seg) (c : Seg),
    resolveFrom P c cs = (resolveFromB P c cs).map Prod.fst
  | [], _ => rfl
  | r :: rest, c => by
    unfold resolveFrom resolveFromB
    rw [resolvePair_eq]
    cases resolvePairB P c r with
    | error e => rfl
    | ok x =>
      obtain ⟨l', r', b⟩ := x
      show (do let tail ← resolveFrom P r' rest; pure (l' :: tail)) =
        Except.map Prod.fst (do let (tail, bs) ← resolveFromB P r' rest; pure (l' :: tail, b :: bs))
      rw [resolveFrom_eq P rest]
      cases resolveFromB P r' rest <;> rfl

theorem resolveFrom_ok_iff {P : Params} (cs : List Seg) (c : Seg) (out : List Seg) :
    resolveFrom P c cs = .ok out ↔ ∃ bs, resolveFromB P c cs = .ok (out, bs) := by
  rw [resolveFrom_eq, Exc.map_ok]
  exact ⟨fun ⟨⟨_, bs⟩, h, e⟩ => ⟨bs, by cases e; exact h⟩, fun ⟨bs, h⟩ => ⟨_, h, rfl⟩⟩

theorem resolveFromB_cons {P : Params} {l r l' r' : Seg} {b : Branch} {rest tail : List Seg} {bs : List Branch}
    (h1 : resolvePairB P l r = .ok (l', r', b)) (h2 : resolveFromB P r' rest = .ok (tail, bs)) :
    resolveFromB P l (r :: rest) = .ok (l' :: tail, b :: bs) := by
  rw [resolveFromB, h1]
  show (do let (tail, bs) ← resolveFromB P r' rest; pure (l' :: tail, b :: bs)) = _
  rw [h2]
  rfl

theorem leftOK_of_suffix {r R : Seg} (hR : LeftOK R) (h : r.items <:+ R.items) : LeftOK r := by
  refine ⟨hR.nodup.sublist h.sublist, ?_, List.Pairwise.sublist (h.sublist.filterMap _) hR.asc⟩
  by_cases hr : r.items = []
  · exact .inl hr
  · obtain ⟨p, hp⟩ := hR.last.resolve_left (h.ne_nil hr)
    exact .inr ⟨p, (getLast?_of_suffix h hr).trans hp⟩

/-- `cur` is what an earlier step left of `orig` -/
theorem pass_spec (P : Params) : ∀ (cs : List Seg) (cur orig : Seg),
    LeftOK cur → cur.items <:+ orig.items → cur.peak = orig.peak → (∀ s ∈ cs, FactoryLike s) →
    ∃ out bs, resolveFromB P cur cs = .ok (out, bs) ∧
      Forall2 (fun o i => o.items <:+: i.items ∧ o.peak = i.peak) out (orig :: cs) ∧
      (∃ hd tl, out = hd :: tl ∧ hd.items <+: cur.items) ∧
      ((∀ a ∈ orig :: cs, ∀ b ∈ orig :: cs, StrictCoords a b) → (∀ b ∈ bs, b ≠ Branch.interior) →
        Consec Separated out) := by
  intro cs
  induction cs with
  | nil =>
    intro cur orig _ hsuf hpk _
    exact ⟨[cur], [], rfl, .cons ⟨hsuf.isInfix, hpk⟩ .nil, ⟨cur, [], rfl, List.prefix_rfl⟩, fun _ _ => trivial⟩
  | cons R rest ih =>
    intro cur orig hcur hsuf hpk hF
    have hFR : FactoryLike R := hF R (List.mem_cons_self ..)
    obtain ⟨l', r', b, h1⟩ := resolve_total P cur R hcur hFR.2
    obtain ⟨hpre, hsufR⟩ := resolve_subrun h1 hcur hFR.2
    obtain ⟨_, _, hpl, hpr⟩ := resolve_sublist h1
    -- what is handed on is a suffix of `R`, so the invariant holds again
    obtain ⟨_, bs', h2, hsub, ⟨hd, tl, rfl, hhd⟩, hsep⟩ := ih r' R (leftOK_of_suffix hFR.1 hsufR) hsufR hpr
      fun s hs => hF s (List.mem_cons_of_mem _ hs)
    refine ⟨l' :: hd :: tl, b :: bs', resolveFromB_cons h1 h2,
      .cons ⟨hpre.isInfix.trans hsuf.isInfix, hpl.trans hpk⟩ hsub, ⟨l', _, rfl, hpre⟩, fun hS hb => ⟨?_, ?_⟩⟩
    · -- `l'` and `r'` are separated by the step, and `hd` keeps only pairs of `r'`
      have hSc : StrictCoords cur R := fun p hp =>
        hS orig (List.mem_cons_self ..) R (List.mem_cons_of_mem _ (List.mem_cons_self ..)) p
          ((hsuf.sublist.filterMap _).subset hp)
      have hsep' := resolve_separated h1 hcur hFR.2 hSc (hb b (List.mem_cons_self ..))
      exact fun p hp p' hp' => hsep' p hp p' ((hhd.sublist.filterMap _).subset hp')
    · exact hsep (fun a ha b hb => hS a (List.mem_cons_of_mem _ ha) b (List.mem_cons_of_mem _ hb))
        fun b' hb' => hb b' (List.mem_cons_of_mem _ hb')

theorem pass_total (P : Params) : ∀ (cs : List Seg) (cur : Seg),
    LeftOK cur → (∀ s ∈ cs, FactoryLike s) → ∃ out bs, resolveFromB P cur cs = .ok (out, bs) := by
  intro cs cur hcur hF
  obtain ⟨out, bs, h, _⟩ := pass_spec P cs cur cur hcur List.suffix_rfl rfl hF
  exact ⟨out, bs, h⟩

end Coma.Proofs.ConflictAll

namespace Coma.Proofs
open Coma.Spec Coma.Proofs.ConflictAll

theorem resolveFrom_subrun {P : Params} {c : Seg} {cs out : List Seg} (h : resolveFrom P c cs = .ok out)
    (hF : ∀ s ∈ c :: cs, FactoryLike s) :
    Forall2 (fun o i => o.items <:+: i.items ∧ o.peak = i.peak) out (c :: cs) := by
  obtain ⟨bs, hB⟩ := (resolveFrom_ok_iff cs c out).1 h
  obtain ⟨_, _, hB', hsub, _⟩ := pass_spec P cs c c (hF c (List.mem_cons_self ..)).1 List.suffix_rfl rfl
    fun s hs => hF s (List.mem_cons_of_mem _ hs)
  cases hB.symm.trans hB'
  exact hsub

theorem resolveFrom_total (P : Params) (c : Seg) (cs : List Seg) (hF : ∀ s ∈ c :: cs, FactoryLike s) :
    ∃ out, resolveFrom P c cs = .ok out := by
  obtain ⟨out, bs, h⟩ := pass_total P cs c (hF c (List.mem_cons_self ..)).1
    (fun s hs => hF s (List.mem_cons_of_mem _ hs))
  exact ⟨out, (resolveFrom_ok_iff cs c out).2 ⟨bs, h⟩⟩

theorem resolveFrom_adjacent_separated {P : Params} {c : Seg} {cs out : List Seg} {bs : List Branch}
    (h : resolveFromB P c cs = .ok (out, bs)) (hF : ∀ s ∈ c :: cs, FactoryLike s)
    (hS : ∀ a ∈ c :: cs, ∀ b ∈ c :: cs, StrictCoords a b) (hb : ∀ b ∈ bs, b ≠ Branch.interior) :
    Consec Separated out := by
  obtain ⟨_, _, h', _, _, hsep⟩ := pass_spec P cs c c (hF c (List.mem_cons_self ..)).1 List.suffix_rfl rfl
    fun s hs => hF s (List.mem_cons_of_mem _ hs)
  cases h.symm.trans h'
  exact hsep hS hb

end Coma.Proofs
