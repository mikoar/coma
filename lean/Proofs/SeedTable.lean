import Proofs.Peaks
import Coma.Seeding

/- The seed table derived by the model (`Coma/Seeding.lean`).  `deriveSeed` in normal form: look the reference up, compute
   the secondary correlation, and apply a PURE function `seedOf` to it; every theorem about `deriveSeed` then is a theorem
   about `seedOf`.  `deriveTable` entry by entry (`deriveEntry`): each entry is computed from its own key, its own molecule
   and the references only. -/
namespace Coma.Proofs
open Coma.Proofs.Exc Coma.Proofs.Peaks

/-- the status of a delivered list when more than `keep` peaks passed -/
def capStatus (c : SecCfg) (s : PSeed) (corr : List Nat) : SecStatus :=
  if isort id ((peaksOf c s.primary corr).map (·.1)) = isort id s.captured then .reordered
  else if boundaryTie c.keep.toNat ((passed c corr).map (·.2))
      && tieConsistent c (s.primary - c.margin) (passed c corr) (peaksOf c s.primary corr) s.captured
  then .ambiguous else .mismatch

def seedOf (c : SecCfg) (s : PSeed) (corr : List Nat) : Seed × SecStatus :=
  if ((passed c corr).length : Int) ≤ c.keep then
    ({ refId := s.refId, rev := s.rev, peaks := (peaksOf c s.primary corr).map (·.1) }, .derived)
  else ({ refId := s.refId, rev := s.rev, peaks := s.captured }, capStatus c s corr)

theorem deriveSeed_eq (c : SecCfg) (refs : List OMap) (q : OMap) (s : PSeed) :
    deriveSeed c refs q s =
      match refs.find? (fun r => r.id = s.refId) with
      | none   => .error .stopIteration
      | some r => (refineCorrelation c r q s.rev s.primary).map (seedOf c s) := by
  unfold deriveSeed refine
  cases refs.find? (fun r => r.id = s.refId) with
  | none => rfl
  | some r =>
    dsimp only
    cases refineCorrelation c r q s.rev s.primary with
    | error e => rfl
    | ok corr => exact (apply_ite Except.ok _ _ _).symm

theorem deriveSeed_ok (c : SecCfg) (refs : List OMap) (q : OMap) (s : PSeed) (x : Seed × SecStatus) :
    deriveSeed c refs q s = .ok x ↔ ∃ r corr, refs.find? (fun r => r.id = s.refId) = some r ∧
      refineCorrelation c r q s.rev s.primary = .ok corr ∧ x = seedOf c s corr := by
  rw [deriveSeed_eq]
  cases refs.find? (fun r => r.id = s.refId) <;> simp [map_ok]

theorem seedOf_few {c : SecCfg} {s : PSeed} {corr : List Nat} (h : ((passed c corr).length : Int) ≤ c.keep) :
    seedOf c s corr = ({ refId := s.refId, rev := s.rev, peaks := (peaksOf c s.primary corr).map (·.1) }, .derived) :=
  if_pos h

theorem seedOf_many {c : SecCfg} {s : PSeed} {corr : List Nat} (h : ¬ ((passed c corr).length : Int) ≤ c.keep) :
    seedOf c s corr = ({ refId := s.refId, rev := s.rev, peaks := s.captured }, capStatus c s corr) :=
  if_neg h

theorem seedOf_few_captured {c : SecCfg} {s : PSeed} {corr : List Nat} (h : ((passed c corr).length : Int) ≤ c.keep)
    (cap : List Int) : seedOf c { s with captured := cap } corr = seedOf c s corr :=
  (seedOf_few h).trans (seedOf_few (s := s) h).symm

theorem seedOf_refId (c : SecCfg) (s : PSeed) (corr : List Nat) : (seedOf c s corr).1.refId = s.refId :=
  (apply_ite (fun x : Seed × SecStatus => x.1.refId) _ _ _).trans (ite_self _)

theorem capStatus_ne_derived (c : SecCfg) (s : PSeed) (corr : List Nat) : capStatus c s corr ≠ .derived := by
  unfold capStatus
  split
  · exact nofun
  · split <;> exact nofun

theorem capStatus_reordered (c : SecCfg) (s : PSeed) (corr : List Nat) :
    capStatus c s corr = .reordered ↔ isort id s.captured = isort id ((peaksOf c s.primary corr).map (·.1)) := by
  unfold capStatus
  split
  · exact iff_of_true rfl (Eq.symm ‹_›)
  · refine iff_of_false ?_ (fun h => ‹¬ _› h.symm)
    split <;> exact nofun

theorem seedOf_derived_iff (c : SecCfg) (s : PSeed) (corr : List Nat) :
    (seedOf c s corr).2 = .derived ↔ ((passed c corr).length : Int) ≤ c.keep := by
  by_cases h : ((passed c corr).length : Int) ≤ c.keep
  · rw [seedOf_few h]; exact iff_of_true rfl h
  · rw [seedOf_many h]; dsimp only; exact iff_of_false (capStatus_ne_derived c s corr) h

theorem seedOf_reordered {c : SecCfg} {s : PSeed} {corr : List Nat} (h : (seedOf c s corr).2 = .reordered) :
    (seedOf c s corr).1.peaks = s.captured ∧
      isort id s.captured = isort id ((peaksOf c s.primary corr).map (·.1)) := by
  by_cases hf : ((passed c corr).length : Int) ≤ c.keep
  · rw [seedOf_few hf] at h; cases h
  · rw [seedOf_many hf] at h ⊢; dsimp only at h; exact ⟨rfl, (capStatus_reordered c s corr).mp h⟩

/-- when at most `keep` peaks pass, the derived seed is the model's own `refine` output and the
    lists captured from the real run are not used -/
theorem deriveSeed_derived (c : SecCfg) (refs : List OMap) (q : OMap) (s : PSeed) (sd : Seed)
    (h : deriveSeed c refs q s = .ok (sd, .derived)) (cap : List Int) :
    deriveSeed c refs q { s with captured := cap } = .ok (sd, .derived) ∧
    ∃ r pk, refs.find? (fun r => r.id = s.refId) = some r ∧ refine c r q s.rev s.primary = .ok pk ∧
      sd = { refId := s.refId, rev := s.rev, peaks := pk.map (·.1) } := by
  obtain ⟨r, corr, hf, hc, hx⟩ := (deriveSeed_ok c refs q s _).mp h
  have hfew := (seedOf_derived_iff c s corr).mp (congrArg Prod.snd hx).symm
  exact ⟨(deriveSeed_ok c refs q _ _).mpr ⟨r, corr, hf, hc, hx.trans (seedOf_few_captured hfew cap).symm⟩,
    r, _, hf, Peaks.refine_of_corr hc, congrArg Prod.fst (hx.trans (seedOf_few hfew))⟩

/-- status `reordered`: the list delivered by the real run is used, and it is a rearrangement of the model's `keep` highest -/
theorem deriveSeed_reordered (c : SecCfg) (refs : List OMap) (q : OMap) (s : PSeed) (sd : Seed)
    (h : deriveSeed c refs q s = .ok (sd, .reordered)) :
    sd.peaks = s.captured ∧
    ∃ r pk, refs.find? (fun r => r.id = s.refId) = some r ∧ refine c r q s.rev s.primary = .ok pk ∧
      (isort id s.captured) = isort id (pk.map (·.1)) := by
  obtain ⟨r, corr, hf, hc, hx⟩ := (deriveSeed_ok c refs q s _).mp h
  obtain ⟨h1, h2⟩ := seedOf_reordered (congrArg Prod.snd hx).symm
  exact ⟨(congrArg (·.1.peaks) hx).trans h1, r, _, hf, Peaks.refine_of_corr hc, h2⟩

def deriveEntry (c : SecCfg) (refs qs : List OMap) (e : QKey × List PSeed) : Except Err ((QKey × List Seed) × (QKey × List SecStatus)) :=
  match fragmentOf qs e.1 with
  | none   => .error .attributeError
  | some q => (e.2.mapM (deriveSeed c refs q)).map fun ds => ((e.1, ds.map (·.1)), (e.1, ds.map (·.2)))

theorem deriveEntry_ok_iff {c : SecCfg} {refs qs : List OMap} {e : QKey × List PSeed}
    {r : (QKey × List Seed) × (QKey × List SecStatus)} : deriveEntry c refs qs e = .ok r ↔
      ∃ q ds, fragmentOf qs e.1 = some q ∧ e.2.mapM (deriveSeed c refs q) = .ok ds ∧
        r = ((e.1, ds.map (·.1)), (e.1, ds.map (·.2))) := by
  unfold deriveEntry
  cases fragmentOf qs e.1 with
  | none => exact ⟨nofun, fun ⟨_, _, h, _⟩ => nomatch h⟩
  | some q =>
    rw [map_ok]
    exact ⟨fun ⟨ds, h, hr⟩ => ⟨q, ds, rfl, h, hr⟩, fun ⟨_, ds, hq, h, hr⟩ => by cases hq; exact ⟨ds, h, hr⟩⟩

theorem deriveTable_cons (c : SecCfg) (refs qs : List OMap) (e : QKey × List PSeed) (tl : PTable) :
    deriveTable c refs qs (e :: tl) =
      deriveEntry c refs qs e >>= fun r =>
        (deriveTable c refs qs tl).map fun d => { table := r.1 :: d.table, status := r.2 :: d.status } := by
  obtain ⟨k, ss⟩ := e
  rw [deriveTable]
  unfold deriveEntry
  cases fragmentOf qs k with
  | none => rfl
  | some q =>
    show (ss.mapM (deriveSeed c refs q) >>= fun ds => deriveTable c refs qs tl >>= fun d => pure _) =
      ((ss.mapM (deriveSeed c refs q)).map _ >>= _)
    cases ss.mapM (deriveSeed c refs q) with
    | error e => rfl
    | ok ds => cases deriveTable c refs qs tl <;> rfl

theorem deriveTable_cons_ok_iff {c : SecCfg} {refs qs : List OMap} {e : QKey × List PSeed} {tl : PTable} {d : Derived} :
    deriveTable c refs qs (e :: tl) = .ok d ↔ ∃ r d', deriveEntry c refs qs e = .ok r ∧
      deriveTable c refs qs tl = .ok d' ∧ d = { table := r.1 :: d'.table, status := r.2 :: d'.status } := by
  rw [deriveTable_cons, bind_ok]
  exact exists_congr fun r => by rw [map_ok, exists_and_left]

theorem deriveTable_eq_mapM (c : SecCfg) (refs qs : List OMap) (pt : PTable) :
    deriveTable c refs qs pt =
      (pt.mapM (deriveEntry c refs qs)).map fun es => { table := es.map (·.1), status := es.map (·.2) } := by
  induction pt with
  | nil => rfl
  | cons e tl ih =>
    rw [List.mapM_cons, deriveTable_cons, ih]
    cases deriveEntry c refs qs e with
    | error x => rfl
    | ok r => cases tl.mapM (deriveEntry c refs qs) <;> rfl

theorem deriveTable_append (c : SecCfg) (refs qs : List OMap) (a b : PTable) (da db : Derived)
    (ha : deriveTable c refs qs a = .ok da) (hb : deriveTable c refs qs b = .ok db) :
    deriveTable c refs qs (a ++ b) = .ok { table := da.table ++ db.table, status := da.status ++ db.status } := by
  induction a generalizing da with
  | nil => cases ha; exact hb
  | cons e tl ih =>
    obtain ⟨r, d, he, ht, rfl⟩ := deriveTable_cons_ok_iff.mp ha
    exact deriveTable_cons_ok_iff.mpr ⟨r, _, he, ih d ht, rfl⟩

theorem deriveEntry_congr (c : SecCfg) (refs qs qs' : List OMap) (e : QKey × List PSeed)
    (h : qs.find? (fun q => q.id = e.1.id) = qs'.find? (fun q => q.id = e.1.id)) :
    deriveEntry c refs qs e = deriveEntry c refs qs' e := by
  unfold deriveEntry fragmentOf
  rw [h]

theorem deriveEntry_key (c : SecCfg) (refs qs : List OMap) (e : QKey × List PSeed)
    (r : (QKey × List Seed) × (QKey × List SecStatus)) (h : deriveEntry c refs qs e = .ok r) :
    r.1.1 = e.1 ∧ r.2.1 = e.1 := by
  obtain ⟨_, _, _, _, rfl⟩ := deriveEntry_ok_iff.mp h
  exact ⟨rfl, rfl⟩

theorem deriveTable_keys (c : SecCfg) (refs qs : List OMap) (pt : PTable) (d : Derived)
    (h : deriveTable c refs qs pt = .ok d) : d.table.map (·.1) = pt.map (·.1) ∧ d.status.map (·.1) = pt.map (·.1) := by
  induction pt generalizing d with
  | nil => cases h; exact ⟨rfl, rfl⟩
  | cons e tl ih =>
    obtain ⟨r, d', he, ht, rfl⟩ := deriveTable_cons_ok_iff.mp h
    obtain ⟨k1, k2⟩ := deriveEntry_key c refs qs e r he
    obtain ⟨i1, i2⟩ := ih d' ht
    simp only [List.map_cons, k1, k2, i1, i2, and_self]

theorem deriveTable_lookup (c : SecCfg) (refs qs : List OMap) (pt : PTable) (d : Derived) (k : QKey)
    (h : deriveTable c refs qs pt = .ok d) :
    d.table.lookup k =
      match pt.find? (fun e => e.1 = k) with
      | none   => []
      | some e => match deriveEntry c refs qs e with
        | .ok r    => r.1.2
        | .error _ => [] := by
  induction pt generalizing d with
  | nil => cases h; rfl
  | cons e tl ih =>
    obtain ⟨r, d', he, ht, rfl⟩ := deriveTable_cons_ok_iff.mp h
    have ih' := ih d' ht
    unfold SeedTable.lookup at ih' ⊢
    simp only [List.find?_cons, (deriveEntry_key c refs qs e r he).1]
    by_cases hk : e.1 = k
    · simp only [hk, decide_true, he]
    · simp only [hk, decide_false]
      exact ih'

end Coma.Proofs
