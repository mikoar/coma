import Props.Defs
import Proofs.ListLemmas

/-
  The labels of a map in normal form: on both strands they are the positions indexed from the left (`labelAt`), listed
  from the right on '-' (`labels_eq`, membership `mem_labels`).
-/
namespace Coma.Proofs
open Coma.Spec

theorem lbl_eq_iff (l : Lbl) (s p : Int) : l = ⟨s, p⟩ ↔ l.site = s ∧ l.pos = p := by
  cases l; simp

theorem lastD_eq (d : Int) (l : List Int) : lastD d l = l.getLast?.getD d := by
  induction l with
  | nil => rfl
  | cons a as ih =>
    cases as with
    | nil => rfl
    | cons b bs =>
      rw [lastD, ih, List.getLast?_cons_cons]
      all_goals simp

theorem lastD_mem (d : Int) (l : List Int) (h : l ≠ []) : lastD d l ∈ l := by
  rw [lastD_eq, List.getLast?_eq_some_getLast h]
  exact List.getLast_mem h

theorem le_lastD (d : Int) (l : List Int) (h : l.Pairwise (· ≤ ·)) : ∀ x ∈ l, x ≤ lastD d l := by
  intro x hx
  have hl := List.getLast?_eq_some_getLast (List.ne_nil_of_mem hx)
  rw [lastD_eq, hl]
  exact (pairwise_le_last h hl x hx).elim Int.le_of_eq id

theorem labelsFwd_eq (i : Int) (ps : List Int) :
    labelsFwd i ps = ps.mapIdx fun k p => ⟨i + k, p⟩ := by
  induction ps generalizing i with
  | nil => rfl
  | cons p ps ih =>
    rw [labelsFwd, ih, List.mapIdx_cons]
    simp only [Int.natCast_zero, Int.add_zero, Int.natCast_add, Int.natCast_one, Int.add_assoc, Int.add_comm 1]

theorem labelsRev_eq (i e : Int) (ps : List Int) :
    labelsRev i e ps = ps.mapIdx fun k p => ⟨i - k, e - p⟩ := by
  induction ps generalizing i with
  | nil => rfl
  | cons p ps ih =>
    rw [labelsRev, ih, List.mapIdx_cons]
    simp only [Int.natCast_zero, Int.sub_zero, Int.natCast_add, Int.natCast_one, Int.sub_sub, Int.add_comm 1]

theorem labelsFwd_pos (i : Int) (ps : List Int) : (labelsFwd i ps).map Lbl.pos = ps := by
  induction ps generalizing i with
  | nil => rfl
  | cons p ps ih => simp [labelsFwd, ih]

theorem labelsRev_pos (i e : Int) (ps : List Int) :
    (labelsRev i e ps).map Lbl.pos = ps.map (fun p => e - p) := by
  induction ps generalizing i with
  | nil => rfl
  | cons p ps ih => simp [labelsRev, ih]

theorem labelsFwd_site_lt (i : Int) (ps : List Int) :
    ((labelsFwd i ps).map Lbl.site).Pairwise (· < ·) := by
  rw [List.pairwise_map, labelsFwd_eq, List.pairwise_iff_getElem]
  intro a b ha hb hab
  simp only [List.getElem_mapIdx]
  omega

theorem labelsRev_site_gt (i e : Int) (ps : List Int) :
    ((labelsRev i e ps).map Lbl.site).Pairwise (· > ·) := by
  rw [List.pairwise_map, labelsRev_eq, List.pairwise_iff_getElem]
  intro a b ha hb hab
  simp only [List.getElem_mapIdx]
  omega

theorem labelsFwd_append (A B : List Int) (i : Int) :
    labelsFwd i (A ++ B) = labelsFwd i A ++ labelsFwd (i + A.length) B := by
  rw [labelsFwd_eq, labelsFwd_eq, labelsFwd_eq, List.mapIdx_append]
  refine congrArg (_ ++ ·) (congrArg (List.mapIdx · B) (funext fun k => funext fun p => ?_))
  exact congrArg (Lbl.mk · p) (by omega)

theorem pos_mem_of_mem_labelsFwd {i : Int} {l : List Int} {x : Lbl} (h : x ∈ labelsFwd i l) :
    x.pos ∈ l := by
  have := List.mem_map_of_mem (f := Lbl.pos) h
  rwa [labelsFwd_pos] at this

/-- the label of `m` at index `k` (0, 1, … from the left) with file coordinate `p`, on strand `rev` -/
def labelAt (m : OMap) (rev : Bool) (k : Nat) (p : Int) : Lbl :=
  ⟨k + 1 + m.shift, if rev then m.length - 1 - p else p⟩

theorem labels_eq (m : OMap) (rev : Bool) :
    m.labels rev =
      if rev then (m.positions.mapIdx (labelAt m true)).reverse else m.positions.mapIdx (labelAt m false) := by
  cases rev
  · simp only [OMap.labels, labelsFwd_eq, Bool.false_eq_true, if_false]
    refine congrArg (List.mapIdx · m.positions) (funext fun k => funext fun p => ?_)
    exact congrArg (Lbl.mk · p) (by omega : 1 + m.shift + (k : Int) = k + 1 + m.shift)
  · -- `labelsRev` numbers `positions.reverse` downwards from `length + shift`: index `k` from the right is
    -- index `length - 1 - k` from the left, a truncated subtraction that is exact only for `k < length`
    simp only [OMap.labels, labelsRev_eq, List.mapIdx_reverse, if_true]
    refine congrArg List.reverse (List.mapIdx_eq_mapIdx_iff.2 fun k hk => ?_)
    exact congrArg (Lbl.mk · _) (by omega :
      (m.positions.length : Int) + m.shift - ((m.positions.length - 1 - k : Nat) : Int) = k + 1 + m.shift)

theorem mem_labels (m : OMap) (rev : Bool) (l : Lbl) :
    l ∈ m.labels rev ↔ ∃ k : Nat, ∃ p, m.positions[k]? = some p ∧ l = labelAt m rev k p := by
  have key : l ∈ m.positions.mapIdx (labelAt m rev) ↔
      ∃ k : Nat, ∃ p, m.positions[k]? = some p ∧ l = labelAt m rev k p := by
    simp only [List.mem_mapIdx, List.getElem?_eq_some_iff]
    exact ⟨fun ⟨k, h, e⟩ => ⟨k, _, ⟨h, rfl⟩, e.symm⟩, fun ⟨k, p, ⟨h, hp⟩, e⟩ => ⟨k, h, hp ▸ e.symm⟩⟩
  rw [labels_eq]
  cases rev
  · exact key
  · exact List.mem_reverse.trans key

theorem labels_spec (m : OMap) (rev : Bool) :
    (m.labels rev).length = m.positions.length ∧
    ∀ l, l ∈ m.labels rev ↔ ∃ k : Nat, ∃ p, m.positions[k]? = some p ∧ l.site = (k : Int) + 1 + m.shift ∧
        l.pos = (if rev then m.length - 1 - p else p) := by
  refine ⟨?_, fun l => ?_⟩
  · rw [labels_eq]
    cases rev
    · exact List.length_mapIdx
    · exact List.length_reverse.trans List.length_mapIdx
  · simp only [mem_labels, labelAt, lbl_eq_iff]

theorem labels_frame_monotone (m : OMap) (rev : Bool) (hm : Ascending m.positions) (l1 l2 : Lbl)
    (h1 : l1 ∈ m.labels rev) (h2 : l2 ∈ m.labels rev) (hs : l1.site ≤ l2.site) :
    if rev then l2.pos ≤ l1.pos else l1.pos ≤ l2.pos := by
  obtain ⟨k1, p1, hk1, rfl⟩ := (mem_labels ..).1 h1
  obtain ⟨k2, p2, hk2, rfl⟩ := (mem_labels ..).1 h2
  simp only [labelAt] at hs ⊢
  have hp : p1 ≤ p2 := by
    obtain ⟨hlt1, rfl⟩ := List.getElem?_eq_some_iff.mp hk1
    obtain ⟨hlt2, rfl⟩ := List.getElem?_eq_some_iff.mp hk2
    rcases Nat.lt_or_eq_of_le (show k1 ≤ k2 by omega) with hlt | rfl
    · exact List.pairwise_iff_getElem.mp hm k1 k2 hlt1 hlt2 hlt
    · exact Int.le_refl _
  cases rev
  · exact hp
  · show m.length - 1 - p2 ≤ m.length - 1 - p1
    omega

theorem labels_pos_lt_site (m : OMap) (rev : Bool) (hs : Ascending m.positions) (a b : Lbl)
    (ha : a ∈ m.labels rev) (hb : b ∈ m.labels rev) (hlt : a.pos < b.pos) :
    (if rev then b.site < a.site else a.site < b.site) := by
  cases rev
  · refine Int.not_le.1 fun hle => ?_
    have : b.pos ≤ a.pos := labels_frame_monotone m false hs b a hb ha hle
    omega
  · refine Int.not_le.1 fun hle => ?_
    have : b.pos ≤ a.pos := labels_frame_monotone m true hs a b ha hb hle
    omega

theorem labels_site_nodup (m : OMap) (rev : Bool) : ((m.labels rev).map Lbl.site).Nodup := by
  unfold OMap.labels
  split
  · exact (labelsRev_site_gt _ _ _).imp (fun h => Int.ne_of_gt h)
  · exact (labelsFwd_site_lt _ _).imp (fun h => Int.ne_of_lt h)

theorem labels_pos_pairwise (R : Int → Int → Prop) (hR : ∀ c a b, R a b → R (c - b) (c - a)) (m : OMap) (rev : Bool)
    (h : m.positions.Pairwise R) : ((m.labels rev).map Lbl.pos).Pairwise R := by
  unfold OMap.labels
  split
  · rw [labelsRev_pos, List.pairwise_map, List.pairwise_reverse]
    exact h.imp (hR _ _ _)
  · rw [labelsFwd_pos]; exact h

theorem labels_pos_asc (m : OMap) (rev : Bool) (h : Ascending m.positions) :
    ((m.labels rev).map Lbl.pos).Pairwise (· ≤ ·) :=
  labels_pos_pairwise (· ≤ ·) (fun c _ _ h => Int.sub_le_sub_left h c) m rev h

theorem Compose.labels_pos_inj (m : OMap) (rev : Bool) (h : StrictAscending m.positions) :
    ∀ a ∈ m.labels rev, ∀ b ∈ m.labels rev, a.pos = b.pos → a = b :=
  inj_of_nodup_map Lbl.pos
    ((labels_pos_pairwise (· < ·) (fun c _ _ h => Int.sub_lt_sub_left h c) m rev h).imp Int.ne_of_lt)

end Coma.Proofs
