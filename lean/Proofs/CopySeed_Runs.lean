import Proofs.Corr
import Proofs.Peaks_Find

/- The correlation of two blurred bit vectors, label by label.  Each vector is a union of runs of 9 set bins (`Runs`);
   `RunPairs` pairs every query run with the one reference run near it.  The correlation at a lag, a double sum over bins
   and query labels, is swapped and counted label by label (`corr_eq`): the overlap of a query run with its reference run
   grows by one bin per lag up to the diagonal and shrinks after it, unless an end of the vector cuts it.  So `find_peaks`
   returns a lag at the common diagonal of all labels (`RunPairs.seed`). -/
namespace Coma.Proofs.CopySeed
open Coma.Proofs.Corr

def sumTo (f : Nat → Nat) : Nat → Nat
  | 0     => 0
  | n + 1 => sumTo f n + f n

theorem sumTo_congr (f g : Nat → Nat) (n : Nat) (h : ∀ x, x < n → f x = g x) : sumTo f n = sumTo g n := by
  induction n with
  | zero => rfl
  | succ n ih =>
    simp only [sumTo]
    rw [ih (fun x hx => h x (by omega)), h n (by omega)]

theorem sumTo_const (c n : Nat) : sumTo (fun _ => c) n = n * c := by
  induction n with
  | zero => simp [sumTo]
  | succ n ih => simp only [sumTo]; rw [ih, Nat.succ_mul]

theorem sumTo_zero (f : Nat → Nat) (n : Nat) (h : ∀ x, x < n → f x = 0) : sumTo f n = 0 :=
  (sumTo_congr f (fun _ => 0) n h).trans (sumTo_const 0 n)

theorem sumTo_single (f : Nat → Nat) (n j0 : Nat) (hj : j0 < n) (h : ∀ j, j < n → j ≠ j0 → f j = 0) :
    sumTo f n = f j0 := by
  induction n with
  | zero => omega
  | succ n ih =>
    simp only [sumTo]
    by_cases hn : j0 = n
    · subst hn
      rw [sumTo_zero f j0 (fun x hx => h x (by omega) (by omega))]
      omega
    · rw [ih (by omega) (fun j hj' hne => h j (by omega) hne), h n (by omega) (by omega)]
      omega

theorem sumTo_add (f g : Nat → Nat) (n : Nat) : sumTo (fun x => f x + g x) n = sumTo f n + sumTo g n := by
  induction n with
  | zero => rfl
  | succ n ih => simp only [sumTo]; rw [ih]; omega

theorem sumTo_shift (f : Nat → Nat) (n : Nat) : sumTo f (n + 1) = f 0 + sumTo (fun x => f (x + 1)) n := by
  induction n with
  | zero => simp [sumTo]
  | succ n ih =>
    rw [sumTo, ih]
    simp only [sumTo]
    omega

theorem sumTo_swap (h : Nat → Nat → Nat) (n L : Nat) :
    sumTo (fun x => sumTo (fun j => h j x) n) L = sumTo (fun j => sumTo (fun x => h j x) L) n := by
  induction L with
  | zero =>
    simp only [sumTo]
    exact (sumTo_zero _ n (fun _ _ => rfl)).symm
  | succ L ih =>
    simp only [sumTo]
    rw [ih, ← sumTo_add]

theorem sumTo_le (f g : Nat → Nat) (n : Nat) (h : ∀ x, x < n → f x ≤ g x) : sumTo f n ≤ sumTo g n := by
  induction n with
  | zero => exact Nat.le_refl _
  | succ n ih =>
    simp only [sumTo]
    have := ih (fun x hx => h x (by omega))
    have := h n (by omega)
    omega

theorem sumTo_lt_of_le_of_lt (f g : Nat → Nat) (n x0 : Nat) (h : ∀ x, x < n → f x ≤ g x) (hx : x0 < n)
    (hlt : f x0 < g x0) : sumTo f n + 1 ≤ sumTo g n := by
  induction n with
  | zero => omega
  | succ n ih =>
    simp only [sumTo]
    have hn := h n (by omega)
    by_cases hx0 : x0 = n
    · subst hx0
      have := sumTo_le f g x0 (fun x hx => h x (by omega))
      omega
    · have := ih (fun x hx => h x (by omega)) (by omega)
      omega

theorem sumTo_ge_term (f : Nat → Nat) (n j0 : Nat) (hj : j0 < n) : f j0 ≤ sumTo f n := by
  induction n with
  | zero => omega
  | succ n ih =>
    simp only [sumTo]
    by_cases h : j0 = n
    · subst h; omega
    · have := ih (by omega); omega

theorem cnt_eq (lo hi L : Nat) :
    sumTo (fun x => if lo ≤ x ∧ x ≤ hi then 1 else 0) L = min (hi + 1) L - lo := by
  induction L with
  | zero => simp [sumTo]
  | succ L ih =>
    simp only [sumTo]
    rw [ih]
    split <;> omega

theorem sumTo_add_pred_le (f g : Nat → Nat) (n j0 : Nat) (h : ∀ j, j < n → f j ≤ g j)
    (h1 : ∀ j, j < n → j ≠ j0 → f j + 1 ≤ g j) : sumTo f n + (n - 1) ≤ sumTo g n := by
  induction n with
  | zero => exact Nat.le_refl _
  | succ n ih =>
    simp only [sumTo]
    by_cases hj : j0 = n
    · have := sumTo_le (fun j => f j + 1) g n (fun j hjn => h1 j (by omega) (by omega))
      rw [sumTo_add, sumTo_const, Nat.mul_one] at this
      have := h n (by omega)
      omega
    · have := ih (fun j hjn => h j (by omega)) (fun j hjn => h1 j (by omega))
      have := h1 n (by omega) (fun e => hj e.symm)
      omega

theorem dot_sumTo : ∀ (r q : List Nat), dot r q = sumTo (fun x => r.getD x 0 * q.getD x 0) q.length
  | _, [] => by simp [dot_nil_right, sumTo]
  | [], y :: ys => by
    rw [dot_nil_left]
    symm
    apply sumTo_zero
    intro x _
    simp
  | x :: xs, y :: ys => by
    rw [dot_cons, List.length_cons, sumTo_shift, dot_sumTo xs ys]
    simp

theorem sumNat_sumTo : ∀ (l : List Nat), sumNat l = sumTo (fun x => l.getD x 0) l.length
  | [] => by simp [sumNat, sumTo]
  | x :: xs => by
    rw [sumNat_cons, List.length_cons, sumTo_shift, sumNat_sumTo xs]
    simp

/-- bin `x` of the query lies in the run of a query label at bin `b`, and bin `k + x` of the reference in the run of a
    reference label at bin `r`.  The literals of this file are those of the default secondary blur radius (`-b2 4`): a run
    is the 4 bins either side of its centre, 9 = 2·4 + 1 bins long, and at a lag within 4 of the diagonal a bin of the
    query run lies within 8 = 2·4 of the centre of the reference run (`RunPairs.near`). -/
def ind (b r k x : Nat) : Nat := if b ≤ x + 4 ∧ x ≤ b + 4 ∧ r ≤ k + x + 4 ∧ k + x ≤ r + 4 then 1 else 0

theorem ind_le_succ (b r k x : Nat) (h : b + k + 1 ≤ r) : ind b r k x ≤ ind b r (k + 1) x := by
  unfold ind
  split <;> split <;> omega

theorem ind_succ_le (b r k x : Nat) (h : r ≤ b + k) : ind b r (k + 1) x ≤ ind b r k x := by
  unfold ind
  split <;> split <;> omega

/-- the bin gained is `r - 5 - k`, the left end of the reference run at lag `k + 1` -/
theorem ind_sum_lt_succ (b r k L : Nat) (h : b + k + 1 ≤ r) (h' : r ≤ b + k + 9) (h0 : k + 5 ≤ r)
    (hL : r < k + 5 + L) : sumTo (ind b r k) L + 1 ≤ sumTo (ind b r (k + 1)) L := by
  refine sumTo_lt_of_le_of_lt _ _ L (r - 5 - k) (fun x _ => ind_le_succ b r k x h) (by omega) ?_
  unfold ind
  rw [if_neg (by omega), if_pos (by omega)]
  exact Nat.zero_lt_one

/-- the bin lost is `r + 4 - k`, the right end of the reference run at lag `k` -/
theorem ind_sum_succ_lt (b r k L : Nat) (h : r ≤ b + k) (h' : b + k ≤ r + 8) (hk : k ≤ r + 4)
    (hL : r + 4 < k + L) : sumTo (ind b r (k + 1)) L + 1 ≤ sumTo (ind b r k) L := by
  refine sumTo_lt_of_le_of_lt _ _ L (r + 4 - k) (fun x _ => ind_succ_le b r k x h) (by omega) ?_
  unfold ind
  rw [if_neg (by omega), if_pos (by omega)]
  exact Nat.zero_lt_one

/-- the 7 bins within 3 of `b` lie in both runs, at least 4 of them inside the vector -/
theorem ind_sum_ge (b r k L : Nat) (h : r ≤ b + k + 1) (h' : b + k ≤ r + 1) (hb : b < L) (hL : 4 ≤ L) :
    4 ≤ sumTo (ind b r k) L := by
  have hle : sumTo (fun x => if b - 3 ≤ x ∧ x ≤ b + 3 then 1 else 0) L ≤ sumTo (ind b r k) L := by
    apply sumTo_le
    intro x _
    unfold ind
    split <;> split <;> omega
  rw [cnt_eq] at hle
  omega

def indq (b x : Nat) : Nat := if b ≤ x + 4 ∧ x ≤ b + 4 then 1 else 0

theorem indq_sum_le (b L : Nat) : sumTo (indq b) L ≤ 9 := by
  have h : sumTo (indq b) L = min (b + 4 + 1) L - (b - 4) := by
    rw [← cnt_eq]
    apply sumTo_congr
    intro x _
    unfold indq
    split <;> split <;> first | rfl | omega
  omega

def Runs (c : Nat → Nat) (n : Nat) (v : List Nat) : Prop :=
  ∀ x, x < v.length → (v.getD x 0 = 1 ∨ v.getD x 0 = 0) ∧
    (v.getD x 0 = 1 ↔ ∃ j, j < n ∧ x ≤ c j + 4 ∧ c j ≤ x + 4)

namespace Runs

theorem reverse {c : Nat → Nat} {n : Nat} {v : List Nat} (h : Runs c n v) (L : Nat) (hlen : v.length = L + 1)
    (hc : ∀ j, j < n → c j ≤ L) : Runs (fun j => L - c j) n v.reverse := by
  intro x hx
  rw [List.length_reverse] at hx
  rw [getD_reverse v x hx]
  obtain ⟨hb, hiff⟩ := h (v.length - 1 - x) (by omega)
  refine ⟨hb, hiff.trans (exists_congr fun j => and_congr_right fun hj => ?_)⟩
  have := hc j hj
  show _ ↔ x ≤ L - c j + 4 ∧ L - c j ≤ x + 4
  omega

end Runs

/-- `near`: query label `j` is paired with a reference label whose run, centred at `d j`, is the only one of `rv` within
    8 bins of `d j` -/
structure RunPairs (c d : Nat → Nat) (n : Nat) (qv rv : List Nat) : Prop where
  runs   : Runs c n qv
  sep    : ∀ j j', j < j' → j' < n → c j + 9 ≤ c j'
  inside : ∀ j, j < n → c j < qv.length
  near   : ∀ j, j < n → ∀ y, y ≤ d j + 8 → d j ≤ y + 8 →
             (rv.getD y 0 = 1 ∨ rv.getD y 0 = 0) ∧ (rv.getD y 0 = 1 ↔ y ≤ d j + 4 ∧ d j ≤ y + 4)

section
variable {c d : Nat → Nat} {n : Nat} {qv rv : List Nat}

theorem sum_le (h : Runs c n qv) : sumNat qv ≤ 9 * n := by
  rw [sumNat_sumTo]
  have h1 : sumTo (fun x => qv.getD x 0) qv.length ≤ sumTo (fun x => sumTo (fun j => indq (c j) x) n) qv.length := by
    apply sumTo_le
    intro x hx
    obtain ⟨hb, hiff⟩ := h x hx
    rcases hb with h1 | h0
    · obtain ⟨j0, hj0, hx1, hx2⟩ := hiff.mp h1
      rw [h1]
      refine Nat.le_trans ?_ (sumTo_ge_term _ n j0 hj0)
      unfold indq
      rw [if_pos ⟨hx2, hx1⟩]
      exact Nat.le_refl _
    · rw [h0]; exact Nat.zero_le _
  refine Nat.le_trans h1 ?_
  rw [sumTo_swap (fun j x => indq (c j) x), Nat.mul_comm, ← sumTo_const 9 n]
  apply sumTo_le
  intro j _
  exact indq_sum_le _ _

/-- bin `x` lies in at most one query run (`sep`), and at a lag within 4 of that label's diagonal bin `k + x` of the
    reference is within 8 of its reference label (`near`) -/
theorem term_eq (C : RunPairs c d n qv rv) (k : Nat) (hk : ∀ j, j < n → d j ≤ c j + k + 4 ∧ c j + k ≤ d j + 4)
    (x : Nat) (hx : x < qv.length) :
    rv.getD (k + x) 0 * qv.getD x 0 = sumTo (fun j => ind (c j) (d j) k x) n := by
  obtain ⟨hb, hiff⟩ := C.runs x hx
  rcases hb with h1 | h0
  · obtain ⟨j0, hj0, hx1, hx2⟩ := hiff.mp h1
    obtain ⟨hk1, hk2⟩ := hk j0 hj0
    rw [sumTo_single _ n j0 hj0, h1, Nat.mul_one]
    · obtain ⟨hrb, hriff⟩ := C.near j0 hj0 (k + x) (by omega) (by omega)
      unfold ind
      split
      · rename_i hc
        exact hriff.mpr ⟨hc.2.2.2, hc.2.2.1⟩
      · rename_i hc
        rcases hrb with h | h
        · have := hriff.mp h
          omega
        · exact h
    · intro j hj hne
      unfold ind
      rw [if_neg]
      intro hc
      rcases Nat.lt_or_gt_of_ne hne with hlt | hgt
      · have := C.sep j j0 hlt hj0
        omega
      · have := C.sep j0 j hgt hj
        omega
  · rw [h0, Nat.mul_zero]
    symm
    apply sumTo_zero
    intro j hj
    unfold ind
    rw [if_neg]
    intro hc
    have : qv.getD x 0 = 1 := hiff.mpr ⟨j, hj, hc.2.1, hc.1⟩
    omega

theorem corr_eq (C : RunPairs c d n qv rv) (k : Nat) (hk : ∀ j, j < n → d j ≤ c j + k + 4 ∧ c j + k ≤ d j + 4) :
    dot (rv.drop k) qv = sumTo (fun j => sumTo (ind (c j) (d j) k) qv.length) n := by
  rw [dot_sumTo, ← sumTo_swap (fun j x => ind (c j) (d j) k x)]
  apply sumTo_congr
  intro x hx
  rw [getD_drop]
  exact term_eq C k hk x hx

/-- `n - 1`: the query run of the first label may be cut by the start of the vector -/
theorem corr_lower (C : RunPairs c d n qv rv) (k : Nat) (hk : ∀ j, j < n → c j + k + 1 ≤ d j ∧ d j ≤ c j + k + 4) :
    dot (rv.drop k) qv + (n - 1) ≤ dot (rv.drop (k + 1)) qv := by
  rw [corr_eq C k (fun j hj => by have := hk j hj; omega), corr_eq C (k + 1) (fun j hj => by have := hk j hj; omega)]
  refine sumTo_add_pred_le _ _ n 0 (fun j hj => sumTo_le _ _ _ fun x _ => ind_le_succ _ _ k x (hk j hj).1)
    (fun j hj hj0 => ?_)
  obtain ⟨h1, h2⟩ := hk j hj
  have hsep := C.sep 0 j (by omega) hj
  have hin := C.inside j hj
  exact ind_sum_lt_succ _ _ _ _ h1 (by omega) (by omega) (by omega)

/-- `n - 1`: the query run of the last label may be cut by the end of the vector -/
theorem corr_upper (C : RunPairs c d n qv rv) (k : Nat) (hk : ∀ j, j < n → d j ≤ c j + k ∧ c j + k ≤ d j + 3) :
    dot (rv.drop (k + 1)) qv + (n - 1) ≤ dot (rv.drop k) qv := by
  rw [corr_eq C k (fun j hj => by have := hk j hj; omega), corr_eq C (k + 1) (fun j hj => by have := hk j hj; omega)]
  refine sumTo_add_pred_le _ _ n (n - 1) (fun j hj => sumTo_le _ _ _ fun x _ => ind_succ_le _ _ k x (hk j hj).1)
    (fun j hj hjl => ?_)
  obtain ⟨h1, h2⟩ := hk j hj
  have hsep := C.sep j (j + 1) (by omega) (by omega)
  have hin := C.inside (j + 1) (by omega)
  exact ind_sum_succ_lt _ _ _ _ h1 (by omega) (by omega) (by omega)

theorem corr_ge (C : RunPairs c d n qv rv) (k : Nat) (hk : ∀ j, j < n → d j ≤ c j + k + 1 ∧ c j + k ≤ d j + 1)
    (hn : 2 ≤ n) : 4 * n ≤ dot (rv.drop k) qv := by
  have hL : 4 ≤ qv.length := by
    have := C.sep 0 1 (by omega) (by omega)
    have := C.inside 1 (by omega)
    omega
  rw [corr_eq C k (fun j hj => by have := hk j hj; omega), Nat.mul_comm, ← sumTo_const 4 n]
  apply sumTo_le
  intro j hj
  obtain ⟨h1, h2⟩ := hk j hj
  exact ind_sum_ge _ _ _ _ h1 h2 (C.inside j hj) hL

end

/-- `hsum`: the set bits of the query bound every score, and the prominence `0.05 · max` of `find_peaks` asks `max ≤ 20 g` -/
theorem seed_between (thr : Rat) (rv qv : List Nat) (l r k g : Nat) (t : Int) (hrv : Bits rv)
    (hlen : r + 1 + qv.length ≤ rv.length) (hlk : l < k) (hkr : k ≤ r) (hg : 1 ≤ g)
    (hl : dot (rv.drop l) qv + g ≤ dot (rv.drop (l + 1)) qv)
    (hr : dot (rv.drop (r + 1)) qv + g ≤ dot (rv.drop r) qv)
    (hthr : thr ≤ (t : Rat)) (hk : t ≤ dot (rv.drop k) qv) (hsum : sumNat qv ≤ 20 * g) :
    ∃ p h, (p, h) ∈ findPeaksSecondary thr ((corrValid rv qv).map Int.ofNat) ∧ l < p ∧ p ≤ r := by
  refine peak_between thr _ (fun j => ((dot (rv.drop j) qv : Nat) : Int)) l r k g hlk hkr (fun j hj => ?_)
    (by omega) (by omega) (by omega) (Rat.le_trans hthr (Rat.intCast_le_intCast.mpr hk)) ?_
  · rw [List.getElem?_map, corrValid_get rv qv j (by omega)]
    rfl
  · obtain ⟨_, _, hin⟩ := maxInit0_spec ((corrValid rv qv).map Int.ofNat)
    rcases hin with h | h
    · rw [h]; omega
    · obtain ⟨y, hy, hyeq⟩ := List.mem_map.mp h
      have := corr_le_sum rv qv hrv y hy
      rw [← hyeq]
      show (y : Int) ≤ _
      omega

namespace RunPairs

/-- `lo` (0 on the forward strand, 1 on the reverse) is how far below the lag `K` of the true placement the diagonal
    `d j - c j` of a label may lie: the lag `K - lo - 1` is below and the lag `K + 1` on or above every diagonal.
    `7 ≤ n` is for the height: the `4 n` of `corr_ge` must reach the default threshold 27 (`-pt`); for the prominence, with
    the step `g = n - 1` of the two flanks and `max ≤ Σ qv ≤ 9 n` (`sum_le`), `2 ≤ n` would do.  `hK`: the lag `K - lo - 1`
    must exist; the proof uses `2 ≤ K` of it, both callers have the five bins of `Geo.rb_first`. -/
theorem seed {c d : Nat → Nat} {n : Nat} {qv rv : List Nat} (C : RunPairs c d n qv rv) (hrv : Bits rv)
    (hn : 7 ≤ n) (thr : Rat) (hthr : thr ≤ 27) (K lo : Nat) (hlo : lo ≤ 1) (hK : 5 ≤ K)
    (hlen : K + 2 + qv.length ≤ rv.length) (hoff : ∀ j, j < n → c j + K ≤ d j + lo ∧ d j ≤ c j + K + 1) :
    ∃ p h, (p, h) ∈ findPeaksSecondary thr ((corrValid rv qv).map Int.ofNat) ∧ K ≤ p + lo ∧ p ≤ K + 1 := by
  have hge := corr_ge C K (fun j hj => by have := hoff j hj; omega) (by omega)
  have hsum := sum_le C.runs
  obtain ⟨p, h, hmem, hp1, hp2⟩ := seed_between thr rv qv (K - 1 - lo) (K + 1) K (n - 1) 27 hrv hlen
    (by omega) (by omega) (by omega)
    (corr_lower C _ (fun j hj => by have := hoff j hj; omega))
    (corr_upper C _ (fun j hj => by have := hoff j hj; omega))
    (by simpa using hthr) (by omega) (by omega)
  exact ⟨p, h, hmem, by omega, hp2⟩

end RunPairs

end Coma.Proofs.CopySeed
