import Props.Defs
import Proofs.Labels

/-
  `OMap.mirror` (C11): read on the other strand, the mirror image of a molecule has the same coordinates in the same order,
  with label k renumbered to n+1−k (`labels_mirror`); the mirror image of a trimmed molecule is trimmed.
-/
namespace Coma.Proofs
open Coma.Spec

namespace Mirror

theorem labelsRev_map_sub (c e : Int) (ps : List Int) (i j : Int) (h : i = c - j) :
    labelsRev i e (ps.map (fun p => e - p)) = (labelsFwd j ps).map (fun l => ⟨c - l.site, l.pos⟩) := by
  rw [labelsRev_eq, labelsFwd_eq]
  refine List.ext_getElem (by simp) fun k h1 h2 => ?_
  simp only [List.getElem_mapIdx, List.getElem_map, Lbl.mk.injEq]
  exact ⟨by omega, by omega⟩

theorem labelsFwd_map_sub (c e : Int) (ps : List Int) (i j : Int) (h : j = c - i) :
    labelsFwd j (ps.map (fun p => e - p)) = (labelsRev i e ps).map (fun l => ⟨c - l.site, l.pos⟩) := by
  rw [labelsRev_eq, labelsFwd_eq]
  refine List.ext_getElem (by simp) fun k h1 h2 => ?_
  simp only [List.getElem_mapIdx, List.getElem_map, Lbl.mk.injEq]
  exact ⟨by omega, trivial⟩

end Mirror

theorem labels_mirror (m : OMap) (rev : Bool) (hs : m.shift = 0) :
    m.mirror.labels (!rev) =
      (m.labels rev).map (fun l => ⟨(m.positions.length : Int) + 1 - l.site, l.pos⟩) := by
  cases rev with
  | false =>
    simp only [OMap.labels, OMap.mirror, Bool.not_false, if_true, List.reverse_reverse, List.length_reverse,
      List.length_map, hs, Bool.false_eq_true, if_false]
    exact Mirror.labelsRev_map_sub _ _ _ _ _ (by omega)
  | true =>
    simp only [OMap.labels, OMap.mirror, Bool.not_true, if_true, hs, Bool.false_eq_true, if_false]
    rw [← List.map_reverse]
    exact Mirror.labelsFwd_map_sub _ _ _ _ _ (by omega)

namespace Mirror

theorem mirror_mirror (m : OMap) : m.mirror.mirror = m := by
  cases m with
  | mk id len ps sh =>
    simp only [OMap.mirror, List.map_reverse, List.reverse_reverse, List.map_map]
    congr 1
    have : ((fun p => len - 1 - p) ∘ fun p => len - 1 - p) = (fun p : Int => p) := by
      funext p; simp only [Function.comp]; omega
    rw [this, List.map_id']

end Mirror

def Trimmed (m : OMap) : Prop :=
  m.shift = 0 ∧ m.positions.head? = some 0 ∧ m.length = lastD 0 m.positions + 1 ∧ Ascending m.positions

theorem mirror_trimmed {m : OMap} (h : Trimmed m) : Trimmed m.mirror := by
  obtain ⟨h1, h2, h3, h4⟩ := h
  rw [lastD_eq] at h3
  refine ⟨h1, ?_, ?_, ?_⟩
  · simp only [OMap.mirror, List.head?_reverse, List.getLast?_map]
    cases hl : m.positions.getLast? with
    | none =>
      rw [List.getLast?_eq_none_iff] at hl
      rw [hl] at h2; cases h2
    | some x =>
      rw [hl] at h3
      simp only [Option.getD_some] at h3
      simp only [Option.map_some, Option.some.injEq]
      omega
  · rw [lastD_eq]
    simp only [OMap.mirror, List.getLast?_reverse, List.head?_map, h2, Option.map_some, Option.getD_some]
    omega
  · unfold Ascending at h4 ⊢
    simp only [OMap.mirror]
    rw [List.pairwise_reverse, List.pairwise_map]
    exact h4.imp (fun {a b} hab => by omega)

end Coma.Proofs
