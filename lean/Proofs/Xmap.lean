import Props.Defs
/-
  C18: what the XMAP writer renders reads back.  Numbers are compared as character lists: a rendered natural is its
  digits (`natChars`), a rendered integer or fixed-point number a sign, a natural and possibly a fraction (`signed`);
  the readers split at a separator that the parts cannot contain, so every field round trip is the round trip of its
  naturals (`parseNat_natChars`).
-/
namespace Coma.Proofs

namespace Xmap

theorem digit_rt : ∀ d, d < 10 → charDigit? (digitChar d) = some d := by decide
theorem digit_ne : ∀ d, d < 10 → digitChar d ≠ '-' ∧ digitChar d ≠ '.' ∧ digitChar d ≠ ',' ∧
    digitChar d ≠ '(' ∧ digitChar d ≠ ')' := by decide

theorem digitsAux_eq (n : Nat) : ∀ (fuel : Nat) (acc : List Nat), n < fuel →
    digitsAux fuel n acc = natDigits n ++ acc := by
  induction n using Nat.strongRecOn with | _ n ih =>
  intro fuel acc h
  obtain ⟨f, rfl⟩ : ∃ f, fuel = f + 1 := ⟨fuel - 1, by omega⟩
  rw [natDigits, digitsAux, digitsAux]
  split
  · rfl
  · rw [ih _ (by omega) f _ (by omega), ih _ (by omega) n [n % 10] (by omega), List.append_assoc]
    rfl

theorem natDigits_eq (n : Nat) :
    natDigits n = if n < 10 then [n] else natDigits (n / 10) ++ [n % 10] := by
  rw [natDigits, digitsAux]
  split
  · rfl
  · exact digitsAux_eq _ _ _ (by omega)

theorem ofDigits_concat (ds : List Nat) (d : Nat) : ofDigits (ds ++ [d]) = 10 * ofDigits ds + d := by
  simp only [ofDigits, List.foldl_append, List.foldl_cons, List.foldl_nil]

theorem ofDigits_natDigits (n : Nat) : ofDigits (natDigits n) = n := by
  induction n using Nat.strongRecOn with | _ n ih =>
  rw [natDigits_eq]
  split
  · exact Nat.zero_add n
  · rw [ofDigits_concat, ih _ (by omega)]
    omega

theorem natDigits_lt (n : Nat) : ∀ d ∈ natDigits n, d < 10 := by
  induction n using Nat.strongRecOn with | _ n ih =>
  rw [natDigits_eq]
  split
  · intro d hd
    rw [List.mem_singleton.1 hd]
    assumption
  · intro d hd
    rcases List.mem_append.1 hd with h | h
    · exact ih _ (by omega) d h
    · rw [List.mem_singleton.1 h]
      omega

theorem natDigits_ne_nil (n : Nat) : natDigits n ≠ [] := by
  rw [natDigits_eq]
  split
  · exact List.cons_ne_nil _ _
  · exact List.append_ne_nil_of_right_ne_nil _ (List.cons_ne_nil _ _)

/-- the two padded fraction digits read back -/
theorem hund (fp : Nat) (h : fp < 100) :
    ofDigits ((padZeros 2 (natDigits fp) ++ [0,0]).take 2) = fp := by
  rw [natDigits_eq]
  split
  · exact Nat.zero_add fp
  · rw [natDigits_eq, if_pos (by omega : fp / 10 < 10)]
    show 10 * (10 * 0 + fp / 10) + fp % 10 = fp
    omega

theorem parseDigits_map (ds : List Nat) (h : ∀ d ∈ ds, d < 10) :
    parseDigits? (ds.map digitChar) = some ds := by
  induction ds with
  | nil => rfl
  | cons d ds ih =>
    have h1 := digit_rt d (h d (by simp))
    have h2 := ih (fun d hd => h d (by simp [hd]))
    simp only [List.map_cons, parseDigits?, h1, h2]

def natChars (n : Nat) : List Char := (natDigits n).map digitChar

theorem renderNat_toList (n : Nat) : (renderNat n).toList = natChars n := by
  simp [renderNat, natChars]

theorem natChars_ne_nil (n : Nat) : natChars n ≠ [] := by
  simp [natChars, natDigits_ne_nil]

theorem natChars_mem {n : Nat} {c : Char} (h : c ∈ natChars n) :
    c ≠ '-' ∧ c ≠ '.' ∧ c ≠ ',' ∧ c ≠ '(' ∧ c ≠ ')' := by
  simp only [natChars, List.mem_map] at h
  obtain ⟨d, hd, rfl⟩ := h
  exact digit_ne d (natDigits_lt n d hd)

theorem parseNat_natChars (n : Nat) : parseNat? (natChars n) = some n := by
  have hne := natChars_ne_nil n
  unfold parseNat?
  split
  · contradiction
  · simp [natChars, parseDigits_map _ (natDigits_lt n), ofDigits_natDigits]

theorem parseInt_of_head_ne (cs : List Char) (h : cs.head? ≠ some '-') :
    parseInt? cs = (parseNat? cs).map (fun n => (n : Int)) := by
  unfold parseInt?
  split
  · simp at h
  · rfl

theorem natChars_head (n : Nat) : (natChars n).head? ≠ some '-' := by
  intro h
  have := List.mem_of_head? h
  exact (natChars_mem this).1 rfl

def signed (neg : Bool) (n : Nat) : List Char := (if neg then ['-'] else []) ++ natChars n

theorem parseInt_signed (neg : Bool) (n : Nat) :
    parseInt? (signed neg n) = some (if neg then -(n : Int) else n) := by
  cases neg
  · simp [signed, parseInt_of_head_ne _ (natChars_head n), parseNat_natChars]
  · simp [signed, parseInt?, parseNat_natChars]

theorem signed_mem {neg : Bool} {n : Nat} {c : Char} (h : c ∈ signed neg n) :
    c ≠ '.' ∧ c ≠ ',' ∧ c ≠ '(' ∧ c ≠ ')' := by
  simp only [signed, List.mem_append] at h
  rcases h with h | h
  · cases neg
    · simp at h
    · simp at h; subst h; decide
  · exact (natChars_mem h).2

theorem renderInt_toList (i : Int) :
    (renderInt i).toList = signed (decide (i < 0)) i.natAbs := by
  unfold renderInt signed
  split <;> rename_i h <;> simp [h, renderNat_toList]

theorem renderFixed_toList (d : Nat) (v : Int) :
    (renderFixed d v).toList = signed (decide (v < 0)) (v.natAbs / 10 ^ d) ++
      '.' :: (padZeros d (natDigits (v.natAbs % 10 ^ d))).map digitChar := by
  unfold renderFixed signed
  by_cases h : v < 0 <;> simp [h, renderNat_toList]

theorem splitDot_append (a b : List Char) (h : '.' ∉ a) :
    splitDot (a ++ '.' :: b) = (a, b) := by
  induction a with
  | nil => simp [splitDot]
  | cons c a ih =>
    have hc : c ≠ '.' := fun e => h (by simp [e])
    have ha : '.' ∉ a := fun e => h (by simp [e])
    simp [splitDot, hc, ih ha]

theorem tdiv_signed (d : Nat) (v : Int) :
    (if decide (v < 0) = true then -((v.natAbs / 10 ^ d : Nat) : Int) else ((v.natAbs / 10 ^ d : Nat) : Int))
      = Int.tdiv v (10 ^ d) := by
  by_cases h : v < 0
  · have hv : v = -(v.natAbs : Int) := Int.eq_neg_natAbs_of_nonpos (by omega)
    simp only [h, decide_true, if_true]
    conv => rhs; rw [hv]
    rw [Int.neg_tdiv, Int.ofNat_tdiv, Int.natCast_pow]; rfl
  · have hv : (v.natAbs : Int) = v := Int.natAbs_of_nonneg (by omega)
    simp only [h, decide_false, Bool.false_eq_true, if_false]
    conv => rhs; rw [← hv]
    rw [Int.ofNat_tdiv, Int.natCast_pow]; rfl

theorem padZeros_lt (w : Nat) (ds : List Nat) (h : ∀ d ∈ ds, d < 10) :
    ∀ d ∈ padZeros w ds, d < 10 := by
  intro d hd
  simp only [padZeros, List.mem_append, List.mem_replicate] at hd
  rcases hd with ⟨_, rfl⟩ | hd
  · decide
  · exact h d hd

theorem parseHundredths_signed (neg : Bool) (ip fp : Nat) (hfp : fp < 100) :
    parseHundredths? (signed neg ip ++ '.' :: (padZeros 2 (natDigits fp)).map digitChar) =
      some (if neg then -((ip * 100 + fp : Nat) : Int) else ((ip * 100 + fp : Nat) : Int)) := by
  have hds := parseDigits_map _ (padZeros_lt 2 _ (natDigits_lt fp))
  have hsplit := splitDot_append (natChars ip) ((padZeros 2 (natDigits fp)).map digitChar)
    fun h => (natChars_mem h).2.1 rfl
  cases neg
  · -- no sign: the first character is a digit, so the reader takes the whole text as the body
    have hh : ¬ (natChars ip ++ '.' :: (padZeros 2 (natDigits fp)).map digitChar).head? = some '-' := by
      rw [List.head?_append]
      cases h : (natChars ip).head? with
      | none => exact absurd (List.head?_eq_none_iff.1 h) (natChars_ne_nil ip)
      | some c => exact fun e => natChars_head ip (h.trans e)
    simp only [signed, Bool.false_eq_true, if_false, List.nil_append, parseHundredths?, hh, hsplit,
      parseNat_natChars, hds, hund fp hfp]
  · simp only [signed, if_true, parseHundredths?, List.cons_append, List.head?_cons,
      List.drop_succ_cons, List.drop_zero, List.nil_append, hsplit, parseNat_natChars, hds, hund fp hfp]

theorem splitOnChar_ne_nil (sep : Char) (l : List Char) : splitOnChar sep l ≠ [] := by
  induction l with
  | nil => simp [splitOnChar]
  | cons c cs ih =>
    unfold splitOnChar
    split
    · simp
    · split <;> simp

theorem splitOnChar_not_mem (sep : Char) (a : List Char) (h : sep ∉ a) :
    splitOnChar sep a = [a] := by
  induction a with
  | nil => simp [splitOnChar]
  | cons c a ih =>
    have hc : c ≠ sep := fun e => h (by simp [e])
    have ha : sep ∉ a := fun e => h (by simp [e])
    simp [splitOnChar, ih ha, hc]

theorem splitOnChar_append (sep : Char) (a rest : List Char) (h : sep ∉ a) :
    splitOnChar sep (a ++ sep :: rest) = a :: splitOnChar sep rest := by
  induction a with
  | nil =>
    simp only [List.nil_append, splitOnChar]
    split
    · rename_i e; exact absurd e (splitOnChar_ne_nil _ _)
    · rename_i e; simp [e]
  | cons c a ih =>
    have hc : c ≠ sep := fun e => h (by simp [e])
    have ha : sep ∉ a := fun e => h (by simp [e])
    simp [splitOnChar, ih ha, hc]

def intChars (i : Int) : List Char := (renderInt i).toList

theorem intChars_mem {i : Int} {c : Char} (h : c ∈ intChars i) :
    c ≠ '.' ∧ c ≠ ',' ∧ c ≠ '(' ∧ c ≠ ')' := by
  rw [intChars, renderInt_toList] at h
  exact signed_mem h

def part (p : Int × Int) : List Char := intChars p.1 ++ ',' :: intChars p.2

def block (p : Int × Int) : List Char := '(' :: (part p ++ [')'])

theorem renderPairs_toList (ps : List (Int × Int)) :
    (renderPairs ps).toList = ps.flatMap block := by
  simp only [renderPairs, String.toList_join, List.flatMap_map]
  refine congrArg (List.flatMap · ps) (funext fun ⟨r, q⟩ => ?_)
  simp [block, part, intChars]

theorem part_mem {p : Int × Int} {c : Char} (h : c ∈ part p) : c ≠ '(' ∧ c ≠ ')' := by
  simp only [part, List.mem_append, List.mem_cons] at h
  rcases h with h | rfl | h
  · exact (intChars_mem h).2.2
  · decide
  · exact (intChars_mem h).2.2

theorem filter_part (p : Int × Int) : (part p).filter (· ≠ '(') = part p := by
  rw [List.filter_eq_self]
  intro c hc
  simpa using (part_mem hc).1

/-- `r,q)r,q)…r,q` -/
def joined : Int × Int → List (Int × Int) → List Char
  | p, [] => part p
  | p, p' :: ps => part p ++ ')' :: joined p' ps

theorem filter_block (p : Int × Int) : (block p).filter (· ≠ '(') = part p ++ [')'] := by
  rw [block, List.filter_cons_of_neg (by decide), List.filter_append, filter_part]
  rfl

theorem body_eq (ps : List (Int × Int)) (p : Int × Int) :
    (((p :: ps).flatMap block).dropLast).filter (· ≠ '(') = joined p ps := by
  induction ps generalizing p with
  | nil =>
    have e : ([p].flatMap block).dropLast = '(' :: part p := by
      rw [List.flatMap_cons, List.flatMap_nil, List.append_nil, block, ← List.cons_append, List.dropLast_concat]
    rw [e, List.filter_cons_of_neg (by decide), filter_part, joined]
  | cons p' ps ih =>
    rw [List.flatMap_cons, List.dropLast_append_of_ne_nil (by simp [block]), List.filter_append,
      ih p', joined, filter_block, List.append_assoc]
    rfl

theorem split_joined (ps : List (Int × Int)) (p : Int × Int) :
    splitOnChar ')' (joined p ps) = (p :: ps).map part := by
  induction ps generalizing p with
  | nil => exact splitOnChar_not_mem _ _ (fun h => (part_mem h).2 rfl)
  | cons p' ps ih =>
    rw [joined, splitOnChar_append _ _ _ (fun h => (part_mem h).2 rfl), ih p']
    rfl

theorem mapM_parts (f : List Char → Option (Int × Int)) (hf : ∀ p, f (part p) = some p)
    (ps : List (Int × Int)) : (ps.map part).mapM f = some ps := by
  induction ps with
  | nil => rfl
  | cons p ps ih => simp [List.mapM_cons, hf, ih]

end Xmap
open Xmap

theorem int_roundtrip (i : Int) : parseInt? (renderInt i).toList = some i := by
  rw [renderInt_toList, parseInt_signed]
  by_cases h : i < 0 <;> simp [h] <;> omega

theorem fixed_trunc (d : Nat) (v : Int) : parseTrunc? (renderFixed d v).toList = some (Int.tdiv v (10 ^ d)) := by
  rw [renderFixed_toList, parseTrunc?, splitDot_append _ _ fun h => (signed_mem h).1 rfl, parseInt_signed,
    tdiv_signed]

theorem coord_roundtrip (x : Int) : parseTrunc? (renderFixed 1 (x * 10)).toList = some x := by
  rw [fixed_trunc]; simp

theorem conf_roundtrip (c : Int) : parseHundredths? (renderFixed 2 c).toList = some c := by
  rw [renderFixed_toList, parseHundredths_signed _ _ _ (Nat.mod_lt _ (by decide))]
  have := Nat.div_add_mod c.natAbs (10 ^ 2)
  by_cases h : c < 0 <;> simp [h] <;> omega

theorem pairs_roundtrip (ps : List (Int × Int)) (hne : ps ≠ []) :
    parsePairs? (renderPairs ps).toList = some ps := by
  obtain ⟨p, ps, rfl⟩ := List.exists_cons_of_ne_nil hne
  rw [renderPairs_toList]
  unfold parsePairs?
  simp only [body_eq, split_joined]
  -- a part splits at its comma into two rendered integers
  refine mapM_parts _ (fun q => ?_) _
  have h1 : ',' ∉ intChars q.1 := fun h => (intChars_mem h).2.1 rfl
  have h2 : ',' ∉ intChars q.2 := fun h => (intChars_mem h).2.1 rfl
  rw [part, splitOnChar_append _ _ _ h1, splitOnChar_not_mem _ _ h2]
  simp only [intChars, int_roundtrip]

theorem row_roundtrip (x : XRow) (hne : x.pairs ≠ []) :
    readXRow? x.fields = some
      { entryId := x.entryId, qid := x.qid, rid := x.rid, qStart := x.qStart, qEnd := x.qEnd,
        rStart := x.rStart, rEnd := x.rEnd, rev := x.rev, conf100 := x.conf100, hitEnum := x.hitEnum,
        qLen := x.qLen, rLen := x.rLen, pairs := x.pairs } := by
  have hn : parseInt? (renderNat x.entryId).toList = some (x.entryId : Int) := by
    rw [renderNat_toList, parseInt_of_head_ne _ (natChars_head _), parseNat_natChars]; rfl
  have hori : decide ((if x.rev then "-" else "+" : String).toList = ['-']) = x.rev := by
    cases x.rev <;> decide
  simp only [readXRow?, XRow.fields, List.map_cons, List.map_nil, hn, int_roundtrip,
    coord_roundtrip, conf_roundtrip, pairs_roundtrip _ hne, hori, String.ofList_toList,
    Option.bind_eq_bind, Option.bind_some]

theorem file_roundtrip (xs : List XRow) (hne : ∀ x ∈ xs, x.pairs ≠ []) :
    readXmap? (xs.map XRow.fields) = some (xs.map fun x =>
      ({ entryId := x.entryId, qid := x.qid, rid := x.rid, qStart := x.qStart, qEnd := x.qEnd,
         rStart := x.rStart, rEnd := x.rEnd, rev := x.rev, conf100 := x.conf100, hitEnum := x.hitEnum,
         qLen := x.qLen, rLen := x.rLen, pairs := x.pairs } : XRead)) := by
  induction xs with
  | nil => rfl
  | cons x xs ih =>
    have h1 := row_roundtrip x (hne x (by simp))
    have h2 := ih (fun y hy => hne y (by simp [hy]))
    simp only [readXmap?] at h2 ⊢
    simp [List.mapM_cons, h1, h2]

end Coma.Proofs
