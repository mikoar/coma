import Props.Defs
import Proofs.SortLemmas
import Coma.Indel
import Proofs.ExceptLemmas
/-
  C20: indel calls.  Clustering is a fold whose state, read backwards, summarises a partition of the calls seen so far
  into consecutive groups (`step_inv`, `fold_inv`).  The two finders apply the call constructor to the coordinates of
  four labels of the two maps (`callAt_spec`), the segment finder at most once for every breakage place.
-/
namespace Coma.Proofs
open Coma.Spec

namespace Indel

theorem forall2_append {α β} {R : α → β → Prop} {l1 l1' : List α} {l2 l2' : List β}
    (h : Forall2 R l1 l2) (h' : Forall2 R l1' l2') : Forall2 R (l1 ++ l1') (l2 ++ l2') := by
  induction h with
  | nil => simpa using h'
  | cons hab _ ih => exact Forall2.cons hab ih

theorem forall2_reverse {α β} {R : α → β → Prop} {l1 : List α} {l2 : List β}
    (h : Forall2 R l1 l2) : Forall2 R l1.reverse l2.reverse := by
  induction h with
  | nil => exact Forall2.nil
  | cons hab _ ih =>
    simp only [List.reverse_cons]
    exact forall2_append ih (Forall2.cons hab Forall2.nil)

theorem summarises_single (c : Call) : Summarises c [c] := by
  refine ⟨by simp, by simp, by simp, ?_, ?_, ⟨c, by simp, rfl⟩, ⟨c, by simp, rfl⟩⟩
  · intro m hm; simp at hm; subst hm; exact ⟨rfl, rfl⟩
  · intro m hm; simp at hm; subst hm; exact ⟨Int.le_refl _, Int.le_refl _⟩

theorem sameKey_iff (a b : Call) :
    a.sameKey b = true ↔ a.isIns = b.isIns ∧ a.chrom = b.chrom := by
  unfold Call.sameKey; simp

theorem summarises_merge {prev line : Call} {g : List Call} (h : Summarises prev g)
    (hk : line.sameKey prev = true) (hc : line.count = 1) :
    Summarises (prev.merge line) (g ++ [line]) := by
  obtain ⟨_, hcount, hq, hkey, hb, ⟨ms, hms, hms'⟩, ⟨me, hme, hme'⟩⟩ := h
  rw [sameKey_iff] at hk
  -- what holds of every call of the old group and of the new call holds of every call of the new group
  have hmem : ∀ {P : Call → Prop}, (∀ m ∈ g, P m) → P line → ∀ m ∈ g ++ [line], P m := fun hg hl m hm =>
    (List.mem_append.1 hm).elim (hg m) fun hm => List.mem_singleton.1 hm ▸ hl
  refine ⟨List.append_ne_nil_of_right_ne_nil _ (List.cons_ne_nil _ _), ?_, ?_, hmem hkey hk, ?_, ?_, ?_⟩
  · show prev.count + 1 = _
    rw [List.map_append, List.sum_append, ← hcount, List.map_singleton, List.sum_singleton, hc]
  · show prev.qids ++ line.qids = _
    rw [List.flatMap_append, ← hq, List.flatMap_singleton]
  · exact hmem (fun m hm => ⟨Int.le_trans (Int.min_le_left ..) (hb m hm).1, Int.le_trans (hb m hm).2 (Int.le_max_left ..)⟩)
      ⟨Int.min_le_right .., Int.le_max_right ..⟩
  · -- the merged start is the smaller of the two starts, the merged stop the larger of the two stops
    show ∃ m ∈ g ++ [line], m.rStart = min prev.rStart line.rStart
    by_cases hle : prev.rStart ≤ line.rStart
    · exact ⟨ms, List.mem_append_left _ hms, by omega⟩
    · exact ⟨line, List.mem_append_right _ (List.mem_singleton_self _), by omega⟩
  · show ∃ m ∈ g ++ [line], m.rStop = max prev.rStop line.rStop
    by_cases hle : line.rStop ≤ prev.rStop
    · exact ⟨me, List.mem_append_left _ hme, by omega⟩
    · exact ⟨line, List.mem_append_right _ (List.mem_singleton_self _), by omega⟩

theorem step_inv (blur : Int) (line : Call) (hc : line.count = 1)
    (acc : List Call) (gsRev : List (List Call)) (h : Forall2 Summarises acc gsRev) :
    ∃ gsRev', Forall2 Summarises (clusterStep blur acc line) gsRev' ∧
      gsRev'.reverse.flatten = gsRev.reverse.flatten ++ [line] := by
  cases h with
  | nil =>
    exact ⟨[[line]], Forall2.cons (summarises_single line) Forall2.nil, by simp⟩
  | @cons prev g rest grest hpg hrest =>
    have hnew : ∃ gsRev', Forall2 Summarises (line :: prev :: rest) gsRev' ∧
        gsRev'.reverse.flatten = (g :: grest).reverse.flatten ++ [line] :=
      ⟨[line] :: g :: grest,
        Forall2.cons (summarises_single line) (Forall2.cons hpg hrest), by simp⟩
    simp only [clusterStep]
    split
    · split
      · rename_i hk
        exact ⟨(g ++ [line]) :: grest,
          Forall2.cons (summarises_merge hpg hk hc) hrest, by simp⟩
      · exact hnew
    · exact hnew

theorem fold_inv (blur : Int) (calls : List Call) (h1 : ∀ c ∈ calls, c.count = 1) :
    ∀ (acc : List Call) (gsRev : List (List Call)), Forall2 Summarises acc gsRev →
      ∃ gsRev', Forall2 Summarises (calls.foldl (clusterStep blur) acc) gsRev' ∧
        gsRev'.reverse.flatten = gsRev.reverse.flatten ++ calls := by
  induction calls with
  | nil => intro acc gsRev h; exact ⟨gsRev, h, by simp⟩
  | cons line rest ih =>
    intro acc gsRev h
    obtain ⟨gs1, hf1, hfl1⟩ := step_inv blur line (h1 line (by simp)) acc gsRev h
    obtain ⟨gs2, hf2, hfl2⟩ := ih (fun c hc => h1 c (by simp [hc])) _ gs1 hf1
    exact ⟨gs2, hf2, by rw [hfl2, hfl1]; simp⟩

theorem sum_counts_of_forall2 {cs : List Call} {gs : List (List Call)}
    (h : Forall2 Summarises cs gs) :
    (cs.map (·.count)).sum = (gs.flatten.map (·.count)).sum := by
  induction h with
  | nil => rfl
  | cons hab _ ih =>
    simp only [List.map_cons, List.sum_cons, List.flatten_cons, List.map_append,
      List.sum_append, ih, hab.2.1]

theorem step_ids (blur : Int) (acc : List Call) (line : Call) :
    (clusterStep blur acc line).reverse.flatMap (·.qids)
      = acc.reverse.flatMap (·.qids) ++ line.qids := by
  cases acc with
  | nil => simp [clusterStep]
  | cons prev rest =>
    simp only [clusterStep]
    split
    · split
      · simp [Call.merge, List.flatMap_append]
      · simp [List.flatMap_append]
    · simp [List.flatMap_append]

theorem fold_ids (blur : Int) (calls : List Call) : ∀ acc : List Call,
    (calls.foldl (clusterStep blur) acc).reverse.flatMap (·.qids)
      = acc.reverse.flatMap (·.qids) ++ calls.flatMap (·.qids) := by
  induction calls with
  | nil => intro acc; simp
  | cons line rest ih =>
    intro acc
    simp only [List.foldl_cons, ih, step_ids, List.flatMap_cons, List.append_assoc]

/-- a two-call input with a `Count` other than 1 -/
def cex : List Call :=
  [⟨false, 1, 100, 200, [7], 1, 2, 5000, 1⟩, ⟨false, 1, 150, 250, [8], 1, 2, 5000, 5⟩]

end Indel
open Indel

/-- `h1`: `Call.merge` adds `1` (not `line.count`) to the cluster count; without it the statement is false
    (`C20_partition_needs_unit_counts`, on `Indel.cex`) -/
theorem cluster_partition (blur : Int) (calls : List Call) (h1 : ∀ c ∈ calls, c.count = 1) :
    ∃ gs : List (List Call), gs.flatten = calls ∧
      Forall2 Summarises (clusterIndels blur calls) gs := by
  obtain ⟨gsRev, hf, hfl⟩ := fold_inv blur calls h1 [] [] Forall2.nil
  exact ⟨gsRev.reverse, by simpa using hfl, forall2_reverse hf⟩

theorem cluster_count (blur : Int) (calls : List Call) (h1 : ∀ c ∈ calls, c.count = 1) :
    ((clusterIndels blur calls).map (·.count)).sum = calls.length := by
  obtain ⟨gs, hfl, hf⟩ := cluster_partition blur calls h1
  rw [sum_counts_of_forall2 hf, hfl, List.map_congr_left h1, List.map_const', List.sum_replicate_nat, Nat.mul_one]

theorem cluster_ids (blur : Int) (calls : List Call) :
    (clusterIndels blur calls).flatMap (·.qids) = calls.flatMap (·.qids) := by
  unfold clusterIndels
  rw [fold_ids]; simp

theorem sortCalls_perm (l : List Call) : (sortCalls l).Perm l :=
  (isort_perm _ _).trans (isort_perm _ _)

theorem mkCall_spec (lo chrom qid rs re qs qe : Int) (hlo : 0 ≤ lo) :
    (∀ c, mkCall lo chrom qid rs re qs qe = some c →
        c.length = ((iabs' (rs - re) - iabs' (qs - qe) : Int) : Rat) ∧
        (c.isIns = true ↔ iabs' (rs - re) - iabs' (qs - qe) < 0) ∧
        c.chrom = chrom ∧ c.qids = [qid] ∧ c.rStart = rs ∧ c.rStop = re ∧ c.count = 1) ∧
    (mkCall lo chrom qid rs re qs qe = none ↔
        ¬ (lo < iabs' (iabs' (rs - re) - iabs' (qs - qe)) ∧ iabs' (iabs' (rs - re) - iabs' (qs - qe)) < 100000)) := by
  unfold mkCall
  simp only []
  generalize iabs' (rs - re) - iabs' (qs - qe) = diff
  constructor
  · intro c hc
    split at hc
    · rename_i hg
      cases hc
      simp only [decide_eq_true_eq, true_and, and_true]
      unfold iabs' at hg
      split at hg <;> omega
    · cases hc
  · split
    · rename_i hg
      simp only [reduceCtorEq, false_iff, Decidable.not_not]
      exact ⟨hg.1, hg.2⟩
    · rename_i hg
      simp only [true_iff]
      intro h
      exact hg ⟨h.1, h.2⟩

theorem pyIndex_mem (xs : List Int) (i v : Int) (h : pyIndex xs i = .ok v) : v ∈ xs := by
  unfold pyIndex at h
  generalize (if i < 0 then (xs.length : Int) + i else i) = j at h
  dsimp only at h
  split at h
  · cases h
  · split at h
    · cases h
      exact List.mem_of_getElem? ‹_›
    · cases h

theorem callAt_spec (lo chrom qid : Int) (rpos qpos : List Int) (a b : Int × Int) (c : Call)
    (h : callAt lo chrom qid rpos qpos a b = .ok (some c)) :
    ∃ rs re qs qe, rs ∈ rpos ∧ re ∈ rpos ∧ qs ∈ qpos ∧ qe ∈ qpos ∧ mkCall lo chrom qid rs re qs qe = some c := by
  obtain ⟨rs, h1, h⟩ := (Exc.bind_ok ..).1 h
  obtain ⟨qs, h2, h⟩ := (Exc.bind_ok ..).1 h
  obtain ⟨re, h3, h⟩ := (Exc.bind_ok ..).1 h
  obtain ⟨qe, h4, h⟩ := (Exc.bind_ok ..).1 h
  exact ⟨rs, re, qs, qe, pyIndex_mem _ _ _ h1, pyIndex_mem _ _ _ h3, pyIndex_mem _ _ _ h2, pyIndex_mem _ _ _ h4,
    Except.ok.inj h⟩

theorem segmentCalls_cons_cases (chrom qid : Int) (rpos qpos : List Int) (pairs : List (Int × Int)) (i : Int)
    (is : List Int) (cs : List Call)
    (h : segmentCalls chrom qid rpos qpos pairs (i :: is) = .ok cs) :
    ∃ rest, segmentCalls chrom qid rpos qpos pairs is = .ok rest ∧
      (cs = rest ∨ ∃ a b c, callAt 100 chrom qid rpos qpos a b = .ok (some c) ∧ cs = c :: rest) := by
  rw [segmentCalls] at h
  obtain ⟨rest, hr, h⟩ := (Exc.bind_ok ..).1 h
  refine ⟨rest, hr, ?_⟩
  by_cases hg : (pairs.length : Int) > i + 1
  · rw [if_pos hg] at h
    obtain ⟨b, -, h⟩ := (Exc.bind_ok ..).1 h
    obtain ⟨a, -, h⟩ := (Exc.bind_ok ..).1 h
    obtain ⟨oc, hc, h⟩ := (Exc.bind_ok ..).1 h
    cases oc with
    | none => exact .inl (Except.ok.inj h).symm
    | some c => exact .inr ⟨a, b, c, hc, (Except.ok.inj h).symm⟩
  · rw [if_neg hg] at h
    exact .inl (Except.ok.inj h).symm

theorem segmentCalls_spec (chrom qid : Int) (rpos qpos : List Int) (pairs : List (Int × Int)) (bps : List Int) (cs : List Call)
    (h : segmentCalls chrom qid rpos qpos pairs bps = .ok cs) :
    cs.length ≤ bps.length ∧
    ∀ c ∈ cs, ∃ rs re qs qe, rs ∈ rpos ∧ re ∈ rpos ∧ qs ∈ qpos ∧ qe ∈ qpos ∧ mkCall 100 chrom qid rs re qs qe = some c := by
  induction bps generalizing cs with
  | nil =>
    unfold segmentCalls at h
    injection h with h; subst h
    exact ⟨Nat.le_refl _, fun c hc => nomatch hc⟩
  | cons i is ih =>
    obtain ⟨rest, hr, hcs⟩ := segmentCalls_cons_cases _ _ _ _ _ _ _ _ h
    obtain ⟨hlen, hall⟩ := ih _ hr
    rcases hcs with rfl | ⟨a, b, c', hc', rfl⟩
    · exact ⟨Nat.le_succ_of_le hlen, hall⟩
    · refine ⟨Nat.succ_le_succ hlen, fun c hc => ?_⟩
      rcases List.mem_cons.mp hc with rfl | hc
      · exact callAt_spec _ _ _ _ _ _ _ _ hc'
      · exact hall c hc

theorem moleculeCall_sound (chrom qid : Int) (rpos qpos : List Int) (pairs : List (Int × Int)) (index : Int) (bp : Int × Int) (c : Call)
    (h : moleculeCall chrom qid rpos qpos pairs index bp = .ok (some c)) :
    ∃ rs re qs qe, rs ∈ rpos ∧ re ∈ rpos ∧ qs ∈ qpos ∧ qe ∈ qpos ∧ mkCall 2000 chrom qid rs re qs qe = some c := by
  unfold moleculeCall at h
  dsimp only at h
  generalize (if index + 1 < 0 then (pairs.length : Int) + (index + 1) else index + 1) = j at h
  split at h
  · cases h
  · split at h
    · cases h
    · exact callAt_spec _ _ _ _ _ _ _ _ h

end Coma.Proofs
