import Proofs.SeedTable
import Proofs.Total

/- C07 with the secondary seeding stage inside the model: when the refinement window of every selected primary peak reaches
   a reference label (`PTableOK`), deriving the seed table succeeds and every derived seed names a reference of the run, so
   the alignment logic runs to completion in every output mode (`seeded_execute_total_weak`).  And C10 for the order of the
   molecules and of the references: the model finds a molecule (`fragmentOf`) and a reference (`perQuery`, `deriveSeed`) by
   its id with `List.find?` and uses the two lists in no other way, so with distinct ids their order is irrelevant. -/
namespace Coma.Proofs
open Coma.Spec

def PSeedOK (c : SecCfg) (refs : List OMap) (s : PSeed) : Prop :=
  ∃ r ∈ refs, r.id = s.refId ∧ ∃ p ∈ r.positions, s.primary - c.margin ≤ p

def PTableOK (c : SecCfg) (refs qs : List OMap) (pt : PTable) : Prop :=
  ∀ e ∈ pt, (∃ q, fragmentOf qs e.1 = some q ∧ (∃ p ∈ q.positions, 0 ≤ p)) ∧ ∀ s ∈ e.2, PSeedOK c refs s

theorem deriveSeed_ref (c : SecCfg) (refs : List OMap) (q : OMap) (s : PSeed) (x : Seed × SecStatus)
    (h : deriveSeed c refs q s = .ok x) : ∃ r ∈ refs, r.id = x.1.refId := by
  obtain ⟨r, corr, hf, _, rfl⟩ := (deriveSeed_ok c refs q s x).mp h
  exact ⟨r, List.mem_of_find?_eq_some hf, by simpa [seedOf_refId] using List.find?_some hf⟩

theorem deriveSeed_isOk (c : SecCfg) (refs : List OMap) (q : OMap) (s : PSeed) (hres : 1 ≤ c.res) (hb : 0 ≤ c.blur)
    (hq0 : ∃ p ∈ q.positions, 0 ≤ p) (hrid : (refs.map (·.id)).Nodup) (hs : PSeedOK c refs s) :
    ∃ x, deriveSeed c refs q s = .ok x := by
  obtain ⟨r, hmem, hid, hwin⟩ := hs
  have hne : r.positions ≠ [] := by obtain ⟨p, hp, _⟩ := hwin; exact List.ne_nil_of_mem hp
  obtain ⟨corr, hcorr⟩ := (refineCorrelation_isOk_iff c r q s.rev s.primary hres hb hq0 hne).mpr hwin
  exact ⟨_, (deriveSeed_ok c refs q s _).mpr ⟨r, corr, hid ▸ find?_id_of_mem refs r hmem hrid, hcorr, rfl⟩⟩

theorem deriveTable_isOk (c : SecCfg) (refs qs : List OMap) (pt : PTable) (hres : 1 ≤ c.res) (hb : 0 ≤ c.blur)
    (hrid : (refs.map (·.id)).Nodup) (hpt : PTableOK c refs qs pt) : ∃ d, deriveTable c refs qs pt = .ok d := by
  rw [deriveTable_eq_mapM, Exc.map_isOk]
  refine Exc.mapM_ok_of_forall _ _ fun e he => ?_
  obtain ⟨⟨q, hf, hq0⟩, hs⟩ := hpt e he
  obtain ⟨ds, hds⟩ := Exc.mapM_ok_of_forall _ _ fun s hs' => deriveSeed_isOk c refs q s hres hb hq0 hrid (hs s hs')
  exact ⟨_, deriveEntry_ok_iff.mpr ⟨q, ds, hf, hds, rfl⟩⟩

theorem deriveEntry_refs (c : SecCfg) (refs qs : List OMap) (e : QKey × List PSeed)
    (r : (QKey × List Seed) × (QKey × List SecStatus)) (h : deriveEntry c refs qs e = .ok r) :
    ∀ s ∈ r.1.2, ∃ r ∈ refs, r.id = s.refId := by
  obtain ⟨q, ds, _, hm, rfl⟩ := deriveEntry_ok_iff.mp h
  intro s hs
  obtain ⟨x, hx, rfl⟩ := List.mem_map.mp hs
  obtain ⟨ps, _, hps⟩ := Exc.mapM_ok_mem (deriveSeed c refs q) e.2 ds hm x hx
  exact deriveSeed_ref c refs q ps x hps

theorem deriveTable_refs (c : SecCfg) (refs qs : List OMap) (pt : PTable) (d : Derived)
    (h : deriveTable c refs qs pt = .ok d) :
    ∀ k, ∀ s ∈ d.table.lookup k, ∃ r ∈ refs, r.id = s.refId := by
  intro k s hs
  rw [deriveTable_eq_mapM, Exc.map_ok] at h
  obtain ⟨es, hes, rfl⟩ := h
  -- the seed stands under an entry of the table, which was derived from an entry of `pt`
  unfold SeedTable.lookup at hs
  split at hs
  · next x hf =>
    obtain ⟨r, hr, rfl⟩ := List.mem_map.mp (List.mem_of_find?_eq_some hf)
    obtain ⟨e, _, he⟩ := Exc.mapM_ok_mem _ _ _ hes r hr
    exact deriveEntry_refs c refs qs e r he s hs
  · cases hs

theorem seeded_execute_total_weak (cfg : Cfg) (c : SecCfg) (mode : Mode) (hP : GoodParams cfg.P) (refs qs : List OMap) (pt : PTable) (it : Int)
    (hres : 1 ≤ c.res) (hb : 0 ≤ c.blur)
    (hrefs : ∀ r ∈ refs, Ascending r.positions) (hqs : ∀ q ∈ qs, Ascending q.positions ∧ q.shift = 0)
    (hids : (qs.map (·.id)).Nodup) (hrid : (refs.map (·.id)).Nodup)
    (hpt : PTableOK c refs qs pt) :
    ∃ d out, deriveTable c refs qs pt = .ok d ∧ execute cfg mode refs d.table qs it = .ok out := by
  obtain ⟨d, hd⟩ := deriveTable_isOk c refs qs pt hres hb hrid hpt
  obtain ⟨out, hout⟩ := execute_total_weak cfg mode hP refs d.table qs it hrefs hqs hids
    (deriveTable_refs c refs qs pt d hd)
  exact ⟨d, out, hd, hout⟩

theorem seeded_execute_total (cfg : Cfg) (c : SecCfg) (mode : Mode) (hP : GoodParams cfg.P) (refs qs : List OMap) (pt : PTable) (it : Int)
    (hres : 1 ≤ c.res) (hb : 0 ≤ c.blur)
    (hrefs : ∀ r ∈ refs, StrictAscending r.positions) (hqs : ∀ q ∈ qs, StrictAscending q.positions ∧ q.shift = 0)
    (hids : (qs.map (·.id)).Nodup) (hrid : (refs.map (·.id)).Nodup)
    (hpt : PTableOK c refs qs pt) :
    ∃ d out, deriveTable c refs qs pt = .ok d ∧ execute cfg mode refs d.table qs it = .ok out :=
  seeded_execute_total_weak cfg c mode hP refs qs pt it hres hb (fun r hr => Compose.asc_of_strict (hrefs r hr))
    (fun q hq => ⟨Compose.asc_of_strict (hqs q hq).1, (hqs q hq).2⟩) hids hrid hpt

theorem fragmentOf_perm (qs qs' : List OMap) (k : QKey) (hp : qs.Perm qs') (hn : (qs.map (·.id)).Nodup) :
    fragmentOf qs' k = fragmentOf qs k := by
  unfold fragmentOf
  rw [find?_id_perm qs qs' k.id hp hn]

theorem deriveTable_ref_perm (c : SecCfg) (refs refs' qs : List OMap) (pt : PTable)
    (hp : refs.Perm refs') (hn : (refs.map (·.id)).Nodup) :
    deriveTable c refs' qs pt = deriveTable c refs qs pt := by
  have hd : deriveSeed c refs' = deriveSeed c refs := by
    funext q s
    unfold deriveSeed
    rw [find?_id_perm refs refs' s.refId hp hn]
  rw [deriveTable_eq_mapM, deriveTable_eq_mapM]
  unfold deriveEntry
  rw [hd]

end Coma.Proofs
