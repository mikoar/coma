import Props.Defs
import Proofs.SortLemmas
import Proofs.Labels

/-
  The pairing engine (`Coma/Pairing.lean`).  `dedupByKey` keeps the first minimum-distance pair of every key class
  (`mem_dedupByKey`); what else the proofs use of it follows from that.  `engineOn` is the engine on the two label lists
  it works on (`engineAlign_on` by `rfl`): it sorts the surviving pairs together with the labels they leave out, so
  reference window and query labels are each returned once (C12).
-/
namespace Coma.Proofs
open Coma.Spec

theorem dedupByKey_sublist (key : Pr → Int) (ps : List Pr) :
    (dedupByKey key ps).Sublist (isort key ps) := by
  have h := filterMap_minBy?_sublist Pr.dist (groupAdj key (isort key ps))
  rw [groupAdj_flatten] at h
  exact h

theorem dedupByKey_mem {key : Pr → Int} {ps : List Pr} {p : Pr} (h : p ∈ dedupByKey key ps) : p ∈ ps :=
  mem_isort.1 ((dedupByKey_sublist key ps).subset h)

theorem dedupByKey_nodup_map {β} (key : Pr → Int) (g : Pr → β) (ps : List Pr)
    (h : (ps.map g).Nodup) : ((dedupByKey key ps).map g).Nodup :=
  ((dedupByKey_sublist key ps).map g).nodup (((isort_perm key ps).map g).nodup_iff.2 h)

theorem dedupByKey_keys_lt (key : Pr → Int) (ps : List Pr) :
    ((dedupByKey key ps).map key).Pairwise (· < ·) := by
  rw [List.pairwise_map]
  unfold dedupByKey
  refine List.Pairwise.filterMap (minBy? Pr.dist) ?_
    (groupAdj_sorted key _ (isort_sorted key ps))
  intro g g' hgg' b hb b' hb'
  exact hgg' b (minBy?_some hb).1 b' (minBy?_some hb').1

theorem dedupByKey_keys_nodup (key : Pr → Int) (ps : List Pr) :
    ((dedupByKey key ps).map key).Nodup :=
  (dedupByKey_keys_lt key ps).imp (fun h => Int.ne_of_lt h)

/-- the class is taken in input order: the sort is stable, and the groups of a sorted list are its key classes -/
theorem mem_dedupByKey (key : Pr → Int) {ps : List Pr} {p : Pr} :
    p ∈ dedupByKey key ps ↔
      p ∈ ps ∧ minBy? Pr.dist (ps.filter (fun y => decide (key y = key p))) = some p := by
  unfold dedupByKey
  rw [List.mem_filterMap]
  constructor
  · rintro ⟨g, hg, hmin⟩
    obtain ⟨x, _, rfl⟩ := (mem_groupAdj_sorted key (isort_sorted key ps) g).1 hg
    rw [filter_isort] at hmin
    obtain ⟨hp, hpk⟩ := List.mem_filter.1 (minBy?_some hmin).1
    rw [of_decide_eq_true hpk]
    exact ⟨hp, hmin⟩
  · rintro ⟨hp, hmin⟩
    refine ⟨_, (mem_groupAdj_sorted key (isort_sorted key ps) _).2 ⟨p, mem_isort.2 hp, rfl⟩, ?_⟩
    rw [filter_isort]
    exact hmin

theorem dedupByKey_min (key : Pr → Int) (ps : List Pr) (p : Pr) (hp : p ∈ ps) :
    ∃ m ∈ dedupByKey key ps, key m = key p ∧ ∀ x ∈ ps, key x = key p → m.dist ≤ x.dist := by
  have hpc : p ∈ ps.filter (fun y => decide (key y = key p)) := List.mem_filter.2 ⟨hp, by simp⟩
  obtain ⟨m, hm⟩ := Option.ne_none_iff_exists'.1 (mt (minBy?_eq_none Pr.dist _).1 (List.ne_nil_of_mem hpc))
  obtain ⟨hmc, hmin⟩ := minBy?_some hm
  obtain ⟨hmp, hmk⟩ := List.mem_filter.1 hmc
  have hk : key m = key p := of_decide_eq_true hmk
  refine ⟨m, (mem_dedupByKey key).2 ⟨hmp, by rw [hk]; exact hm⟩, hk, ?_⟩
  intro x hx hxp
  exact hmin x (List.mem_filter.2 ⟨hx, decide_eq_true hxp⟩)

theorem dedupByKey_spec (key : Pr → Int) {ps : List Pr} {p : Pr} (g : Pr → Int)
    (hs : ps.Pairwise (fun a b => g a ≤ g b)) (hp : p ∈ dedupByKey key ps) :
    ∀ c ∈ ps, key c = key p → p.dist ≤ c.dist ∧ (g c < g p → p.dist < c.dist) := by
  obtain ⟨l1, l2, e, h1, h2⟩ := (minBy?_eq_some_iff Pr.dist).1 ((mem_dedupByKey key).1 hp).2
  intro c hc hk
  -- the class keeps the order of `ps`
  have hs' := hs.filter (fun y => decide (key y = key p))
  have hc' : c ∈ ps.filter (fun y => decide (key y = key p)) := List.mem_filter.2 ⟨hc, decide_eq_true hk⟩
  rw [e] at hs' hc'
  rcases List.mem_append.1 hc' with hc' | hc'
  · exact ⟨Int.le_of_lt (h1 c hc'), fun _ => h1 c hc'⟩
  · rcases List.mem_cons.1 hc' with rfl | hc'
    · exact ⟨Int.le_refl _, fun h => absurd h (Int.lt_irrefl _)⟩
    · have := (List.pairwise_cons.1 (List.pairwise_append.1 hs').2.1).1 c hc'
      exact ⟨h2 c hc', fun h => by omega⟩

theorem mem_dedupByKey_of_unique_min (key : Pr → Int) {ps : List Pr} {c : Pr} (hc : c ∈ ps)
    (hmin : ∀ c' ∈ ps, key c' = key c → c' ≠ c → c.dist < c'.dist) :
    c ∈ dedupByKey key ps := by
  obtain ⟨l1, l2, e, hn⟩ := List.eq_append_cons_of_mem (List.mem_filter.2 ⟨hc, decide_eq_true rfl⟩ :
    c ∈ ps.filter (fun y => decide (key y = key c)))
  have hcl : ∀ c' ∈ l1 ++ c :: l2, c' ≠ c → c.dist < c'.dist := fun c' h hne => by
    obtain ⟨h1, h2⟩ := List.mem_filter.1 (e ▸ h)
    exact hmin c' h1 (of_decide_eq_true h2) hne
  refine (mem_dedupByKey key).2 ⟨hc, (minBy?_eq_some_iff Pr.dist).2 ⟨l1, l2, e, fun c' h => ?_, fun c' h => ?_⟩⟩
  · exact hcl c' (List.mem_append_left _ h) fun e => hn (e ▸ h)
  · by_cases e : c' = c
    · rw [e]; exact Int.le_refl _
    · exact Int.le_of_lt (hcl c' (List.mem_append_right _ (List.mem_cons_of_mem _ h)) e)

theorem mem_dedupByKey_congr (key key' : Pr → Int) (ps : List Pr)
    (hk : ∀ a ∈ ps, ∀ b ∈ ps, key a = key b ↔ key' a = key' b) (p : Pr) :
    p ∈ dedupByKey key ps ↔ p ∈ dedupByKey key' ps := by
  rw [mem_dedupByKey, mem_dedupByKey]
  refine and_congr_right fun hp => ?_
  rw [List.filter_congr (fun y hy => decide_eq_decide.2 (hk y hy p hp))]

theorem mem_dedupByKey_iff_of_distinct (key : Pr → Int) (A : List Pr)
    (hD : ∀ c ∈ A, ∀ c' ∈ A, key c = key c' → c ≠ c' → c.dist ≠ c'.dist) (x : Pr) :
    x ∈ dedupByKey key A ↔ x ∈ A ∧ ∀ c ∈ A, key c = key x → c ≠ x → x.dist < c.dist := by
  refine ⟨fun hx => ?_, fun ⟨hxA, hmin⟩ => mem_dedupByKey_of_unique_min key hxA hmin⟩
  obtain ⟨hxA, hm⟩ := (mem_dedupByKey key).1 hx
  refine ⟨hxA, fun c hc hk hne => ?_⟩
  have hle := (minBy?_some hm).2 c (List.mem_filter.2 ⟨hc, decide_eq_true hk⟩)
  have := hD c hc x hxA hk hne
  omega

theorem dedupByKey_eq_of_mem (key : Pr → Int) (A A' : List Pr) (hm : ∀ x, x ∈ A ↔ x ∈ A')
    (hD : ∀ c ∈ A, ∀ c' ∈ A, key c = key c' → c ≠ c' → c.dist ≠ c'.dist) :
    dedupByKey key A' = dedupByKey key A := by
  have hD' : ∀ c ∈ A', ∀ c' ∈ A', key c = key c' → c ≠ c' → c.dist ≠ c'.dist :=
    fun c hc c' hc' => hD c ((hm c).2 hc) c' ((hm c').2 hc')
  apply eq_of_sorted_of_mem key
  · exact List.pairwise_map.1 (dedupByKey_keys_lt key A')
  · exact List.pairwise_map.1 (dedupByKey_keys_lt key A)
  · intro x
    rw [mem_dedupByKey_iff_of_distinct key A hD, mem_dedupByKey_iff_of_distinct key A' hD']
    constructor
    · rintro ⟨h1, h2⟩
      exact ⟨(hm x).2 h1, fun c hc => h2 c ((hm c).1 hc)⟩
    · rintro ⟨h1, h2⟩
      exact ⟨(hm x).1 h1, fun c hc => h2 c ((hm c).2 hc)⟩

theorem dedupByKey_of_nodup (key : Pr → Int) (l : List Pr) (h : (l.map key).Nodup) :
    dedupByKey key l = isort key l := by
  have hn : ((isort key l).map key).Nodup := ((isort_perm key l).map key).nodup_iff.2 h
  have hlt : ((isort key l).map key).Pairwise (· < ·) :=
    ((isort_sorted key l).and hn).imp (fun h => by omega)
  unfold dedupByKey
  rw [groupAdj_strict key _ hlt, filterMap_map_some (minBy? Pr.dist) (fun x => [x]) id (fun _ => rfl), List.map_id]

/-- two keys: `Mirror.dedup_relabel` renumbers the query labels by any `σ` and takes `key' = σ ∘ key` -/
theorem dedupByKey_map_of_le_iff (f : Pr → Pr) (key key' : Pr → Int)
    (hk : ∀ x y, key (f x) ≤ key (f y) ↔ key' x ≤ key' y)
    (hd : ∀ p, (f p).dist = p.dist) (ps : List Pr) :
    dedupByKey key (ps.map f) = (dedupByKey key' ps).map f := by
  have he : ∀ x y, key (f x) = key (f y) ↔ key' x = key' y := fun x y => by
    have := hk x y
    have := hk y x
    omega
  unfold dedupByKey
  rw [isort_map_of_le_iff f key key' hk, groupAdj_map_of_eq_iff key f key' he, List.filterMap_map,
    List.map_filterMap]
  refine congrArg (fun k => List.filterMap k _) (funext fun g => ?_)
  exact minBy?_map f Pr.dist Pr.dist hd g

theorem dedup_mem {ps : List Pr} {p : Pr} (h : p ∈ dedup ps) : p ∈ ps :=
  dedupByKey_mem (dedupByKey_mem h)

theorem dedup_rsite_nodup (ps : List Pr) : ((dedup ps).map (fun p => p.r.site)).Nodup :=
  dedupByKey_keys_nodup _ _

theorem dedup_qsite_nodup (ps : List Pr) : ((dedup ps).map (fun p => p.q.site)).Nodup :=
  dedupByKey_nodup_map _ _ _ (dedupByKey_keys_nodup _ _)

theorem dedup_eq_self (l : List Pr) (hq : (l.map (fun p => p.q.site)).Nodup)
    (hr : (l.map (fun p => p.r.site)).Pairwise (· < ·)) : dedup l = l := by
  unfold dedup
  rw [dedupByKey_of_nodup _ l hq]
  have hperm := isort_perm (fun (p : Pr) => p.q.site) l
  have hrn : (l.map (fun p => p.r.site)).Nodup := hr.imp (fun h => Int.ne_of_lt h)
  have hrn' := (hperm.map (fun p : Pr => p.r.site)).nodup_iff.2 hrn
  rw [dedupByKey_of_nodup _ _ hrn', isort_eq_of_perm _ hperm (inj_of_nodup_map _ hrn'),
    isort_of_sorted _ l (hr.imp (fun h => Int.le_of_lt h))]

theorem dedup_map (f : Pr → Pr) (hr : ∀ x y, (f x).r.site ≤ (f y).r.site ↔ x.r.site ≤ y.r.site)
    (hq : ∀ x y, (f x).q.site ≤ (f y).q.site ↔ x.q.site ≤ y.q.site)
    (hd : ∀ p, (f p).dist = p.dist) (ps : List Pr) :
    dedup (ps.map f) = (dedup ps).map f := by
  unfold dedup
  rw [dedupByKey_map_of_le_iff f _ _ hq hd, dedupByKey_map_of_le_iff f _ _ hr hd]

theorem window_sublist {lo hi : Int} {xs : List Lbl} : (window lo hi xs).Sublist xs :=
  (List.takeWhile_sublist _).trans (List.dropWhile_sublist _)

theorem mem_window {lo hi : Int} {xs : List Lbl} (h : (xs.map Lbl.pos).Pairwise (· ≤ ·))
    {x : Lbl} : x ∈ window lo hi xs ↔ x ∈ xs ∧ lo ≤ x.pos ∧ x.pos ≤ hi := by
  have h := List.pairwise_map.1 h
  unfold window
  rw [dropWhile_eq_filter _ xs (h.imp fun {a b} hab hb => by simp only [decide_eq_true_eq] at hb ⊢; omega),
    takeWhile_eq_filter _ _ ((h.filter _).imp fun {a b} hab hb => by simp only [decide_eq_true_eq] at hb ⊢; omega),
    List.mem_filter, List.mem_filter]
  simp only [Bool.not_eq_true', decide_eq_false_iff_not, decide_eq_true_eq, Int.not_lt, and_assoc]

theorem window_mid (lo hi : Int) (hlh : lo ≤ hi) (A W B : List Lbl)
    (hA : ∀ a ∈ A, a.pos < lo) (hW : ∀ w ∈ W, lo ≤ w.pos ∧ w.pos ≤ hi) (hB : ∀ b ∈ B, hi < b.pos) :
    window lo hi (A ++ (W ++ B)) = W := by
  unfold window
  rw [List.dropWhile_append_of_pos (fun a ha => by simpa using hA a ha)]
  rw [dropWhile_none (B := W ++ B)]
  · rw [List.takeWhile_append_of_pos (fun w hw => by simpa using (hW w hw).2)]
    rw [takeWhile_none (fun b hb => by simpa using hB b hb)]
    simp
  · intro x hx
    rcases List.mem_append.1 hx with hx | hx
    · have := (hW x hx).1
      simp; omega
    · have := hB x hx
      simp; omega

theorem refWindow_sublist (md : Int) (ref : OMap) (start stop : Int) :
    (refWindow md ref start stop).Sublist (ref.labels false) :=
  window_sublist

theorem refWindow_site_lt (md : Int) (ref : OMap) (start stop : Int) :
    (refWindow md ref start stop).Pairwise (fun a b => a.site < b.site) := by
  refine List.Pairwise.sublist (refWindow_sublist md ref start stop) ?_
  simp only [OMap.labels, Bool.false_eq_true, if_false]
  exact List.pairwise_map.1 (labelsFwd_site_lt _ _)

theorem refWindow_site_nodup (md : Int) (ref : OMap) (start stop : Int) :
    ((refWindow md ref start stop).map Lbl.site).Nodup :=
  (List.pairwise_map.2 (refWindow_site_lt md ref start stop)).imp (fun h => Int.ne_of_lt h)

theorem mem_candidates_window {md start it : Int} {refs qs : List Lbl} {p : Pr} :
    p ∈ candidates md start it refs qs ↔
      ∃ r ∈ refs, ∃ q ∈ window (r.pos - start - md) (r.pos - start + md) qs,
        p = { r := r, q := q, shift := q.pos - (r.pos - start), src := it } := by
  unfold candidates
  simp only [List.mem_flatMap, List.mem_map]
  constructor
  · rintro ⟨r, hr, q, hq, rfl⟩; exact ⟨r, hr, q, hq, rfl⟩
  · rintro ⟨r, hr, q, hq, rfl⟩; exact ⟨r, hr, q, hq, rfl⟩

def engineOn (md start it : Int) (refs qs : List Lbl) : List APos :=
  isort APos.abs ((dedup (candidates md start it refs qs)).map APos.pair ++
    unpaired refs qs (dedup (candidates md start it refs qs)) start)

theorem engineAlign_on (md : Int) (ref qry : OMap) (start stop : Int) (rev : Bool) (it : Int) :
    engineAlign md ref qry start stop rev it = engineOn md start it (refWindow md ref start stop) (qry.labels rev) :=
  rfl

theorem engineOn_perm (md start it : Int) (refs qs : List Lbl) :
    (engineOn md start it refs qs).Perm
      ((dedup (candidates md start it refs qs)).map APos.pair ++
        unpaired refs qs (dedup (candidates md start it refs qs)) start) :=
  isort_perm _ _

theorem pair_mem_engineAlign {md : Int} {ref qry : OMap} {start stop : Int} {rev : Bool} {it : Int} {p : Pr} :
    APos.pair p ∈ engineAlign md ref qry start stop rev it ↔
      p ∈ dedup (candidates md start it (refWindow md ref start stop) (qry.labels rev)) := by
  rw [engineAlign_on, (engineOn_perm md start it _ _).mem_iff]
  simp [unpaired]

theorem engine_sorted (md : Int) (ref qry : OMap) (start stop : Int) (rev : Bool) (it : Int) :
    Ascending ((engineAlign md ref qry start stop rev it).map APos.abs) :=
  isort_sorted _ _

theorem pairs_mem {md start it : Int} {refs qs : List Lbl} {p : Pr}
    (hp : p ∈ dedup (candidates md start it refs qs)) :
    p.r ∈ refs ∧ p.q ∈ window (p.r.pos - start - md) (p.r.pos - start + md) qs ∧
      p.shift = p.q.pos - (p.r.pos - start) := by
  obtain ⟨r, hr, q, hq, rfl⟩ := mem_candidates_window.1 (dedup_mem hp)
  exact ⟨hr, hq, rfl⟩

theorem filterMap_ref_raw (refs qs : List Lbl) (ps : List Pr) (start : Int) :
    (ps.map APos.pair ++ unpaired refs qs ps start).filterMap refLabel? =
      ps.map (fun p => p.r) ++ refs.filter (fun r => !(ps.map (fun p => p.r.site)).contains r.site) := by
  unfold unpaired
  rw [List.filterMap_append, List.filterMap_append,
    filterMap_map_some refLabel? APos.pair (fun p => p.r) (fun _ => rfl),
    filterMap_map_some refLabel? APos.uref id (fun _ => rfl),
    filterMap_map_none refLabel? (fun q => APos.uqry q start) (fun _ => rfl), List.map_id, List.append_nil]

theorem filterMap_qry_raw (refs qs : List Lbl) (ps : List Pr) (start : Int) :
    (ps.map APos.pair ++ unpaired refs qs ps start).filterMap qryLabel? =
      ps.map (fun p => p.q) ++ qs.filter (fun q => !(ps.map (fun p => p.q.site)).contains q.site) := by
  unfold unpaired
  rw [List.filterMap_append, List.filterMap_append,
    filterMap_map_some qryLabel? APos.pair (fun p => p.q) (fun _ => rfl),
    filterMap_map_none qryLabel? APos.uref (fun _ => rfl),
    filterMap_map_some qryLabel? (fun q => APos.uqry q start) id (fun _ => rfl), List.map_id, List.nil_append]

theorem filterMap_pair_raw (refs qs : List Lbl) (ps : List Pr) (start : Int) :
    (ps.map APos.pair ++ unpaired refs qs ps start).filterMap APos.pair? = ps := by
  unfold unpaired
  rw [List.filterMap_append, List.filterMap_append,
    filterMap_map_some APos.pair? APos.pair id (fun _ => rfl),
    filterMap_map_none APos.pair? APos.uref (fun _ => rfl),
    filterMap_map_none APos.pair? (fun q => APos.uqry q start) (fun _ => rfl), List.map_id, List.append_nil,
    List.append_nil]

theorem select_perm {α} (f : α → Lbl) (ps : List α) (l : List Lbl) (hl : (l.map Lbl.site).Nodup)
    (hs : (ps.map fun p => (f p).site).Nodup) (hsub : ∀ p ∈ ps, f p ∈ l) :
    (ps.map f ++ l.filter (fun x => !(ps.map fun p => (f p).site).contains x.site)).Perm l := by
  have hfilt : ∀ x, x ∈ l.filter (fun x => !(ps.map fun p => (f p).site).contains x.site) ↔
      x ∈ l ∧ ∀ p ∈ ps, (f p).site ≠ x.site := by
    intro x
    simp only [List.mem_filter, Bool.not_eq_true', List.contains_eq_mem, decide_eq_false_iff_not, List.mem_map,
      not_exists, not_and]
  refine (List.perm_ext_iff_of_nodup ?_ (nodup_of_nodup_map Lbl.site hl)).2 fun x => ?_
  · rw [List.nodup_append]
    refine ⟨nodup_of_nodup_map Lbl.site (by rwa [List.map_map]),
      (nodup_of_nodup_map Lbl.site hl).sublist List.filter_sublist, ?_⟩
    rintro a ha _ hb rfl
    obtain ⟨p, hp, rfl⟩ := List.mem_map.1 ha
    exact ((hfilt _).1 hb).2 p hp rfl
  · rw [List.mem_append, hfilt, List.mem_map]
    constructor
    · rintro (⟨p, hp, rfl⟩ | h)
      · exact hsub p hp
      · exact h.1
    · intro hx
      by_cases hc : ∃ p ∈ ps, (f p).site = x.site
      · obtain ⟨p, hp, hpx⟩ := hc
        exact Or.inl ⟨p, hp, inj_of_nodup_map Lbl.site hl _ (hsub p hp) x hx hpx⟩
      · exact Or.inr ⟨hx, fun p hp e => hc ⟨p, hp, e⟩⟩

theorem engine_partition_ref (md : Int) (ref qry : OMap) (start stop : Int) (rev : Bool) (it : Int) :
    ((engineAlign md ref qry start stop rev it).filterMap refLabel?).Perm (refWindow md ref start stop) := by
  refine ((engineOn_perm md start it _ _).filterMap refLabel?).trans ?_
  rw [filterMap_ref_raw]
  -- with `(·.r)`, whose argument type is not known when the next arguments are elaborated, this costs 37 M heartbeats
  exact select_perm (fun p : Pr => p.r) _ _ (refWindow_site_nodup md ref start stop) (dedup_rsite_nodup _)
    fun p hp => (pairs_mem hp).1

theorem engine_partition_qry (md : Int) (ref qry : OMap) (start stop : Int) (rev : Bool) (it : Int) :
    ((engineAlign md ref qry start stop rev it).filterMap qryLabel?).Perm (qry.labels rev) := by
  refine ((engineOn_perm md start it _ _).filterMap qryLabel?).trans ?_
  rw [filterMap_qry_raw]
  exact select_perm (fun p : Pr => p.q) _ _ (labels_site_nodup qry rev) (dedup_qsite_nodup _)
    fun p hp => window_sublist.subset (pairs_mem hp).2.1

theorem engine_within {md : Int} {ref qry : OMap} {start stop : Int} {rev : Bool} {it : Int}
    (hq : Ascending qry.positions) {p : Pr}
    (hp : APos.pair p ∈ engineAlign md ref qry start stop rev it) :
    p.r ∈ refWindow md ref start stop ∧ p.q ∈ qry.labels rev ∧
    p.shift = offset start p.r p.q ∧ -md ≤ p.shift ∧ p.shift ≤ md := by
  rw [pair_mem_engineAlign] at hp
  obtain ⟨h1, h2, h3⟩ := pairs_mem hp
  rw [mem_window (labels_pos_asc qry rev hq)] at h2
  obtain ⟨h2a, h2b, h2c⟩ := h2
  refine ⟨h1, h2a, h3, ?_, ?_⟩ <;> omega

theorem engine_pair_labels {md : Int} {ref qry : OMap} {start stop : Int} {rev : Bool} {it : Int} {p : Pr}
    (hp : APos.pair p ∈ engineAlign md ref qry start stop rev it) :
    p.r ∈ ref.labels false ∧ p.q ∈ qry.labels rev := by
  obtain ⟨h1, h2, _⟩ := pairs_mem (pair_mem_engineAlign.1 hp)
  exact ⟨(refWindow_sublist md ref start stop).subset h1, window_sublist.subset h2⟩

theorem engine_one_to_one (md : Int) (ref qry : OMap) (start stop : Int) (rev : Bool) (it : Int) :
    ((pairsOf (engineAlign md ref qry start stop rev it)).map (fun p => p.r.site)).Nodup ∧
    ((pairsOf (engineAlign md ref qry start stop rev it)).map (fun p => p.q.site)).Nodup := by
  have hperm : (pairsOf (engineAlign md ref qry start stop rev it)).Perm
      (dedup (candidates md start it (refWindow md ref start stop) (qry.labels rev))) := by
    have := (engineOn_perm md start it (refWindow md ref start stop) (qry.labels rev)).filterMap APos.pair?
    rwa [filterMap_pair_raw] at this
  exact ⟨(hperm.map _).nodup_iff.2 (dedup_rsite_nodup _),
         (hperm.map _).nodup_iff.2 (dedup_qsite_nodup _)⟩

theorem engine_pyNodup (md : Int) (ref qry : OMap) (start stop : Int) (rev : Bool) (it : Int) :
    PyNodup (engineAlign md ref qry start stop rev it) := by
  have hR : ((engineAlign md ref qry start stop rev it).filterMap refLabel?).Nodup :=
    (engine_partition_ref md ref qry start stop rev it).nodup_iff.2
      (nodup_of_nodup_map Lbl.site (refWindow_site_nodup md ref start stop))
  have hQ : ((engineAlign md ref qry start stop rev it).filterMap qryLabel?).Nodup :=
    (engine_partition_qry md ref qry start stop rev it).nodup_iff.2
      (nodup_of_nodup_map Lbl.site (labels_site_nodup qry rev))
  have h := (List.pairwise_filterMap.1 hR).and (List.pairwise_filterMap.1 hQ)
  refine h.imp ?_
  intro a b hab
  obtain ⟨h1, h2⟩ := hab
  cases a <;> cases b <;> simp only [APos.pyEq]
  · rename_i p p'
    have := h1 p.r rfl p'.r rfl
    simp [this]
  · rename_i r r'
    have := h1 r rfl r' rfl
    simp [this]
  · rename_i q s q' s'
    have := h2 q rfl q' rfl
    simp [this]

end Coma.Proofs
