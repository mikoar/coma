import Proofs.Chain
import Proofs.Translate_Segments

/-
  The pipeline behind the pairing engine (scoring, cutting into segments, chaining, conflict resolution) commutes with
  every map on positions (`PMap`) that keeps what that pipeline reads (`PMap.Equi`).  One step of the resolver commutes
  with such a map except where it compares with the null pair, in front of an empty right segment (`NullOK`); the pass
  and `resolveConflicts` commute for every class of segments that the pass keeps and on which a step commutes
  (`resolveConflicts_gen`): those on which the null comparison reads the same, and those the factory cuts, which such a
  step returns unchanged.
-/
namespace Coma.Proofs

/-- `st` acts on the window start kept with an unpaired query label, `pk` on segment peaks -/
structure PMap where
  r   : Lbl → Lbl
  q   : Lbl → Lbl
  src : Int → Int
  st  : Int → Int
  pk  : Int → Int

namespace PMap
variable (m : PMap)

def pr (p : Pr) : Pr := ⟨m.r p.r, m.q p.q, p.shift, m.src p.src⟩
def ap : APos → APos
  | .pair p   => .pair (m.pr p)
  | .uref r   => .uref (m.r r)
  | .uqry q s => .uqry (m.q q) (m.st s)
def seg (s : Seg) : Seg := ⟨m.pk s.peak, s.items.map m.ap⟩
def sp : SP → SP
  | .null => .null
  | .pr p => .pr (m.pr p)
def ends (e : Ends) : Ends := ⟨m.pr e.s, m.pr e.e⟩
def se (x : Seg × Ends) : Seg × Ends := (m.seg x.1, m.ends x.2)
def pair2 (x : Seg × Seg) : Seg × Seg := (m.seg x.1, m.seg x.2)
def tri (t : Seg × Seg × Branch) : Seg × Seg × Branch := (m.seg t.1, m.seg t.2.1, t.2.2)

/-- Reference coordinates enter the pipeline through differences only, labels through equality, peaks through their
    order.  Labels are compared for equality in `Pr.leqAny` and in `APos.pyEq`, by which `Seg.sub` removes positions
    (`r_inj`, `q_inj`); `pyEq` stands for Python's `in` (identity or `==`) and also compares the `refStart` kept with an
    unpaired query label (`st_inj`). -/
structure Equi : Prop where
  r_pos  : ∀ a b, (m.r a).pos - (m.r b).pos = a.pos - b.pos
  q_pos  : ∀ a, (m.q a).pos = a.pos
  r_inj  : ∀ a b, m.r a = m.r b → a = b
  q_inj  : ∀ a b, m.q a = m.q b → a = b
  st_inj : ∀ a b, m.st a = m.st b → a = b
  pk_lt  : ∀ a b, m.pk a < m.pk b ↔ a < b

/-- In front of an EMPTY right segment a resolver step compares the left segment with the null pair `⟨0,0⟩`: it reads the
    sign of a coordinate and "is this label number 0 at coordinate 0", which a map may change. -/
def NullOK (s : Seg) : Prop := ∀ a ∈ s.items,
  (m.ap a).lessOnBoth nullPr = a.lessOnBoth nullPr ∧ ∀ p, a = .pair p → (m.pr p).leqAny nullPr = p.leqAny nullPr

@[simp] theorem ap_isPair (a : APos) : (m.ap a).isPair = a.isPair := by cases a <;> rfl
@[simp] theorem ap_score (P : Params) (a : APos) : (m.ap a).score P = a.score P := by cases a <;> rfl
@[simp] theorem ap_pair? (a : APos) : (m.ap a).pair? = a.pair?.map m.pr := by cases a <;> rfl
@[simp] theorem seg_peak (s : Seg) : (m.seg s).peak = m.pk s.peak := rfl
@[simp] theorem seg_items (s : Seg) : (m.seg s).items = s.items.map m.ap := rfl

theorem map_score (P : Params) (xs : List APos) : (xs.map m.ap).map (APos.score P) = xs.map (APos.score P) := by
  rw [List.map_map]; exact List.map_congr_left fun a _ => m.ap_score P a

theorem sumScores_map (P : Params) (xs : List APos) : sumScores P (xs.map m.ap) = sumScores P xs := by
  induction xs with
  | nil => rfl
  | cons a as ih => simp only [List.map_cons, sumScores, ih, ap_score]

@[simp] theorem seg_score (P : Params) (s : Seg) : (m.seg s).score P = s.score P := m.sumScores_map P s.items
@[simp] theorem seg_isEmpty (s : Seg) : (m.seg s).isEmpty = s.isEmpty := by simp [Seg.isEmpty]

@[simp] theorem seg_pairs (s : Seg) : (m.seg s).pairs = s.pairs.map m.pr := by
  unfold Seg.pairs
  rw [seg_items, List.filterMap_map, List.map_filterMap]
  exact congrArg (List.filterMap · s.items) (funext m.ap_pair?)

theorem flatMap_pairs (segs : List Seg) : (segs.map m.seg).flatMap Seg.pairs = (segs.flatMap Seg.pairs).map m.pr := by
  induction segs with
  | nil => rfl
  | cons s ss ih => simp only [List.map_cons, List.flatMap_cons, ih, seg_pairs, List.map_append]

theorem sumInts_scores (P : Params) (segs : List Seg) :
    sumInts ((segs.map m.seg).map (Seg.score P)) = sumInts (segs.map (Seg.score P)) := by
  rw [List.map_map]; exact congrArg sumInts (List.map_congr_left fun s _ => m.seg_score P s)

theorem scoreAll?_map (P : Params) (xs : List APos) : scoreAll? P (xs.map m.ap) = scoreAll? P xs := by
  unfold scoreAll?
  rw [m.map_score, List.any_map]
  simp only [Function.comp_def, ap_isPair]

theorem getSegments_map (P : Params) (peak : Int) (xs : List APos) :
    getSegments P (m.pk peak) (xs.map m.ap) = (getSegments P peak xs).map m.seg := by
  unfold getSegments
  rw [m.map_score]
  split
  · rfl
  · simp only [List.map_map, ← List.map_drop, ← List.map_take]; rfl

theorem startPos_map (s : Seg) : (m.seg s).startPos = s.startPos.map m.sp := by
  unfold Seg.startPos
  rw [seg_pairs, seg_items, List.isEmpty_map]
  split
  · rfl
  · cases s.pairs <;> rfl

theorem endPos_map (s : Seg) : (m.seg s).endPos = s.endPos.map m.sp := by
  unfold Seg.endPos
  rw [seg_pairs, seg_items, List.isEmpty_map, List.getLast?_map]
  split
  · rfl
  · cases s.pairs.getLast? <;> rfl

theorem ends?_map (s : Seg) : (m.seg s).ends? = s.ends?.map m.ends := by
  unfold Seg.ends?
  rw [seg_pairs]
  cases s.pairs with
  | nil => rfl
  | cons p ps =>
    exact congrArg (fun e => some (Ends.mk (m.pr p) e)) (List.getLast_map (f := m.pr) (l := p :: ps) (by simp))

def lc (f : Lbl → Lbl) (l : LabelChar) : LabelChar := ⟨f l.lbl, l.score, l.idx⟩

theorem charsRef_map (P : Params) (xs : List APos) : ∀ (i : Nat) (c : Int),
    charsRef P i c (xs.map m.ap) = (charsRef P i c xs).map (lc m.r) := by
  induction xs with
  | nil => intros; rfl
  | cons a as ih => intro i c; cases a <;> simp only [List.map_cons, ap, charsRef, ih] <;> rfl

theorem charsQry_map (P : Params) (xs : List APos) : ∀ (i : Nat) (c : Int),
    charsQry P i c (xs.map m.ap) = (charsQry P i c xs).map (lc m.q) := by
  induction xs with
  | nil => intros; rfl
  | cons a as ih => intro i c; cases a <;> simp only [List.map_cons, ap, charsQry, ih] <;> rfl

theorem lc_score (f : Lbl → Lbl) (l : List LabelChar) : (l.map (lc f)).map (·.score) = l.map (·.score) := by
  rw [List.map_map]; rfl

theorem lc_idx (f : Lbl → Lbl) (l : List LabelChar) (k : Nat) :
    ((l.map (lc f))[k]?).map (·.idx) = (l[k]?).map (·.idx) := by
  rw [List.getElem?_map, Option.map_map]; rfl

theorem withEnds?_map (segs : List Seg) : withEnds? (segs.map m.seg) = (withEnds? segs).map (List.map m.se) := by
  induction segs with
  | nil => rfl
  | cons s ss ih =>
    simp only [List.map_cons, withEnds?, ih, m.ends?_map]
    cases s.ends? <;> cases withEnds? ss <;> rfl

theorem filter_seg (p : Seg → Bool) (hp : ∀ s, p (m.seg s) = p s) (segs : List Seg) :
    (segs.map m.seg).filter p = (segs.filter p).map m.seg := by
  rw [List.filter_map]; exact congrArg _ (List.filter_congr fun s _ => hp s)

section
variable {m} (h : m.Equi)
include h

namespace Equi

theorem r_lt (a b : Lbl) : (m.r a).pos < (m.r b).pos ↔ a.pos < b.pos := by have := h.r_pos a b; omega
theorem r_le (a b : Lbl) : (m.r a).pos ≤ (m.r b).pos ↔ a.pos ≤ b.pos := by have := h.r_pos a b; omega
theorem r_eq (a b : Lbl) : m.r a = m.r b ↔ a = b := ⟨h.r_inj a b, congrArg _⟩
theorem q_eq (a b : Lbl) : m.q a = m.q b ↔ a = b := ⟨h.q_inj a b, congrArg _⟩
theorem st_eq (a b : Int) : m.st a = m.st b ↔ a = b := ⟨h.st_inj a b, congrArg _⟩

end Equi

theorem pr_lessOnBoth (a o : Pr) : (m.pr a).lessOnBoth (m.pr o) = a.lessOnBoth o := by
  simp only [Pr.lessOnBoth, pr, h.q_pos, h.r_lt]

theorem pr_leqAny (a o : Pr) : (m.pr a).leqAny (m.pr o) = a.leqAny o := by
  simp only [Pr.leqAny, pr, h.q_pos, h.r_lt, h.r_eq, h.q_eq]

theorem ap_lessOnBoth (a : APos) (o : Pr) : (m.ap a).lessOnBoth (m.pr o) = a.lessOnBoth o := by
  cases a with
  | pair p => exact pr_lessOnBoth h p o
  | uref r => simp only [ap, APos.lessOnBoth, pr, h.r_lt]
  | uqry q s => simp only [ap, APos.lessOnBoth, pr, h.q_pos]

theorem ap_leqAny (a : APos) (o : Pr) : (m.ap a).leqAny (m.pr o) = a.leqAny o := by
  cases a with
  | pair p => exact pr_leqAny h p o
  | uref r => simp only [ap, APos.leqAny, pr, h.r_le]
  | uqry q s => simp only [ap, APos.leqAny, pr, h.q_pos]

theorem ap_pyEq (a b : APos) : (m.ap a).pyEq (m.ap b) = a.pyEq b := by
  cases a <;> cases b <;> simp only [ap, APos.pyEq, pr, h.r_eq, h.q_eq, h.st_eq]

theorem ends_key (x y : Ends) : (m.ends x).key ≤ (m.ends y).key ↔ x.key ≤ y.key := by
  have := h.r_pos x.s.r y.s.r
  have := h.r_pos x.e.r y.e.r
  simp only [Ends.key, ends, pr, h.q_pos]
  omega

theorem joinScore_map (mult : Rat) (v : Int) (a b : Ends) :
    joinScore mult v (m.ends a) (m.ends b) = joinScore mult v a b := by
  simp only [joinScore, ends, pr, h.q_pos, h.r_pos]

theorem chainSegs_map (P : Params) (C : ChainCfg) (segs : List Seg) :
    chainSegs P C (segs.map m.seg) = (chainSegs P C segs).map (List.map m.seg) := by
  rw [chainSegs_eq, chainSegs_eq, m.filter_seg (fun s => !s.isEmpty) (by simp), m.filter_seg Seg.isEmpty (by simp),
    m.withEnds?_map, Option.map_map, Option.map_map]
  refine congrArg (Option.map · _) (funext fun ne => ?_)
  -- the sorted list moves with the map, and the programme selects the same indices
  show _ ++ _ = List.map m.seg (_ ++ _)
  rw [isort_map_of_le_iff m.se (fun x => x.2.key) (fun x => x.2.key) (fun x y => ends_key h x.2 y.2),
    dpChain_map m.se (segScore P) (segJoin C) _ _
      (fun a => congrArg (fun z : Int => (z : Rat)) (m.seg_score P a.1)) (fun a b => joinScore_map h _ _ a.2 b.2),
    List.map_append, List.map_map, List.map_filterMap, List.map_filterMap]
  refine congrArg (· ++ _) (congrArg (List.filterMap · _) (funext fun i => ?_))
  rw [List.getElem?_map, Option.map_map]
  rfl

theorem sp_leqAny (a o : SP) (ha : ∀ p, a = .pr p → o = .null → (m.pr p).leqAny nullPr = p.leqAny nullPr) :
    (m.sp a).leqAny (m.sp o) = a.leqAny o := by
  cases a with
  | null => rfl
  | pr p =>
    cases o with
    | pr q => exact pr_leqAny h p q
    | null => exact ha p rfl rfl

theorem endOverlaps_map (L R : Seg) (hL : R.items = [] → m.NullOK L) :
    (m.seg L).endOverlapsWithStartOf (m.seg R) = L.endOverlapsWithStartOf R := by
  unfold Seg.endOverlapsWithStartOf
  simp only [m.startPos_map, m.endPos_map, seg_items, List.isEmpty_map]
  by_cases hne : L.items.isEmpty = true
  · rw [if_pos hne, if_pos hne]
  · rw [if_neg hne, if_neg hne]
    have hne' : L.items ≠ [] := fun h0 => hne (by simp [h0])
    -- the three comparisons read the same; only the last can have the null pair on its right (`R` empty)
    have e1 : ∀ os ss, L.startPos = .ok ss → (m.sp os).leqAny (m.sp ss) = os.leqAny ss := fun os ss hss =>
      sp_leqAny h os ss fun p _ h0 => absurd (Conflict.startPos_null (h0 ▸ hss)) hne'
    have e2 : ∀ os se, L.endPos = .ok se → (m.sp os).leqAny (m.sp se) = os.leqAny se := fun os se hse =>
      sp_leqAny h os se fun p _ h0 => absurd (Conflict.endPos_null (h0 ▸ hse)) hne'
    have e3 : ∀ se oe, L.endPos = .ok se → R.endPos = .ok oe → (m.sp se).leqAny (m.sp oe) = se.leqAny oe :=
      fun se oe hse hoe => sp_leqAny h se oe fun p hp h0 =>
        (hL (Conflict.endPos_null (h0 ▸ hoe)) _ (Conflict.mem_pairsOf.1 (Conflict.endPos_mem (hp ▸ hse)))).2 p rfl
    cases hos : R.startPos with
    | error e => rfl
    | ok os =>
      cases hss : L.startPos with
      | error e => rfl
      | ok ss =>
        cases hse : L.endPos with
        | error e => simp only [bind, Except.bind, pure, Except.pure, Except.map, e1 os ss hss]
        | ok se =>
          cases hoe : R.endPos with
          | error e => simp only [bind, Except.bind, pure, Except.pure, Except.map, e1 os ss hss, e2 os se hse]
          | ok oe =>
            simp only [bind, Except.bind, pure, Except.pure, Except.map, e1 os ss hss, e2 os se hse, e3 se oe hse hoe]

theorem trimEnd_map (e : Pr) (xs : List APos) :
    trimEnd (m.pr e) (xs.map m.ap) = (trimEnd e xs).map (List.map m.ap) := by
  unfold trimEnd
  rw [← List.map_reverse, List.dropWhile_map]
  simp only [Function.comp_def, ap_isPair, ap_leqAny h, Except.map, List.map_reverse]

theorem slice_map (s : Seg) (a : SP) (e : Pr) (hn : a = .null → m.NullOK s) :
    (m.seg s).slice (m.sp a) (m.sp (.pr e)) = (s.slice a (.pr e)).map m.seg := by
  unfold Seg.slice
  have t1 : (m.sp (.pr e)).toPr = m.pr e := rfl
  have t2 : (SP.pr e).toPr = e := rfl
  simp only [seg_items, seg_peak, t1, t2]
  rw [List.dropWhile_map, List.takeWhile_map]
  have e1 : s.items.dropWhile ((fun p => p.lessOnBoth (m.sp a).toPr) ∘ m.ap) =
      s.items.dropWhile (fun p => p.lessOnBoth a.toPr) := by
    apply dropWhile_congr_mem
    intro x hx
    cases a with
    | null => exact (hn rfl x hx).1
    | pr c => exact ap_lessOnBoth h x c
  rw [e1]
  simp only [Function.comp_def, ap_isPair, ap_leqAny h, trimEnd_map h]
  cases trimEnd e _ <;> rfl

theorem sub_map (s : Seg) (o : List APos) : (m.seg s).sub (o.map m.ap) = m.seg (s.sub o) := by
  unfold Seg.sub seg
  simp only [List.filter_map, Function.comp_def, List.any_map, ap_pyEq h]

theorem cutAt_map (P : Params) (L R Lc Rc : Seg) (f : Lbl → Lbl) (lch rch : List LabelChar) :
    Conflict.cutAt P (m.seg L) (m.seg R) (m.seg Lc) (m.seg Rc) (lch.map (lc f)) (rch.map (lc f)) =
      m.tri (Conflict.cutAt P L R Lc Rc lch rch) := by
  have tri_mk : ∀ a b c, m.tri (a, b, c) = (m.seg a, m.seg b, c) := fun _ _ _ => rfl
  simp only [Conflict.cutAt, seg_items, seg_score, List.length_map, lc_score, lc_idx, apply_ite m.tri, tri_mk,
    ← sub_map h, List.map_drop, List.map_take]

theorem cut_map (P : Params) (L R Lc Rc : Seg) :
    Conflict.cut P (m.seg L) (m.seg R) (m.seg Lc) (m.seg Rc) = m.tri (Conflict.cut P L R Lc Rc) := by
  simp only [Conflict.cut_eq, seg_peak, seg_items, m.charsRef_map, m.charsQry_map, gt_iff_lt, h.pk_lt]
  split
  · exact cutAt_map h P L R Lc Rc m.r _ _
  · exact cutAt_map h P L R Lc Rc m.q _ _

theorem resolvePairB_map (P : Params) (L R : Seg) (hL : R.items = [] → m.NullOK L) :
    resolvePairB P (m.seg L) (m.seg R) = (resolvePairB P L R).map m.tri := by
  rw [Conflict.resolvePairB_eq, Conflict.resolvePairB_eq, endOverlaps_map h L R hL, m.startPos_map, m.endPos_map, seg_items,
    List.isEmpty_map]
  by_cases hne : L.items.isEmpty = true
  · rw [if_pos hne, if_pos hne]; rfl
  · rw [if_neg hne, if_neg hne]
    cases L.endOverlapsWithStartOf R with
    | error e => rfl
    | ok ov =>
      cases ov with
      | false => rfl
      | true =>
        cases hcs : R.startPos with
        | error e => rfl
        | ok cs =>
          cases hce : L.endPos with
          | error e => rfl
          | ok ce =>
            cases ce with
            | null => exact absurd (Conflict.endPos_null hce) (by simpa using hne)
            | pr e =>
              show (do let Lc ← (m.seg L).slice (m.sp cs) (m.sp (.pr e)); let Rc ← (m.seg R).slice (m.sp cs) (m.sp (.pr e))
                       pure (Conflict.cut P (m.seg L) (m.seg R) Lc Rc)) =
                Except.map m.tri (do let Lc ← L.slice cs (.pr e); let Rc ← R.slice cs (.pr e)
                                     pure (Conflict.cut P L R Lc Rc))
              rw [slice_map h L cs e fun h0 => hL (Conflict.startPos_null (h0 ▸ hcs)),
                slice_map h R cs e fun h0 a ha => by rw [Conflict.startPos_null (h0 ▸ hcs)] at ha; cases ha]
              cases L.slice cs (.pr e) with
              | error e => rfl
              | ok Lc =>
                cases R.slice cs (.pr e) with
                | error e => rfl
                | ok Rc => exact congrArg Except.ok (cut_map h P L R Lc Rc)

theorem resolvePair_map (P : Params) (L R : Seg) (hL : R.items = [] → m.NullOK L) :
    resolvePair P (m.seg L) (m.seg R) = (resolvePair P L R).map m.pair2 := by
  unfold resolvePair
  rw [resolvePairB_map h P L R hL]
  cases resolvePairB P L R <;> rfl

omit h in
theorem resolveFrom_gen (P : Params) (QL QR : Seg → Prop)
    (hstep : ∀ L R, QL L → QR R →
      resolvePair P (m.seg L) (m.seg R) = (resolvePair P L R).map m.pair2)
    (hpres : ∀ L R l r, QL L → QR R → resolvePair P L R = .ok (l, r) → QL r)
    (rest : List Seg) : ∀ l : Seg, QL l → (∀ s ∈ rest, QR s) →
    resolveFrom P (m.seg l) (rest.map m.seg) = (resolveFrom P l rest).map (List.map m.seg) := by
  induction rest with
  | nil => intro l _ _; rfl
  | cons r rest ih =>
    intro l hl hrest
    have hr : QR r := hrest r (by simp)
    simp only [List.map_cons, resolveFrom, bind, Except.bind, pure, Except.pure]
    rw [hstep l r hl hr]
    cases hp : resolvePair P l r with
    | error e => rfl
    | ok t =>
      simp only [Except.map, pair2]
      rw [ih t.2 (hpres l r t.1 t.2 hl hr hp) fun s hs => hrest s (List.mem_cons_of_mem _ hs)]
      cases resolveFrom P t.2 rest <;> rfl

theorem resolveConflicts_gen (P : Params) (C : ChainCfg) (QL QR : Seg → Prop)
    (hstep : ∀ L R, QL L → QR R →
      resolvePair P (m.seg L) (m.seg R) = (resolvePair P L R).map m.pair2)
    (hpres : ∀ L R l r, QL L → QR R → resolvePair P L R = .ok (l, r) → QL r)
    (segs : List Seg) (hz : ∀ s ∈ segs, QL s ∧ QR s) :
    resolveConflicts P C (segs.map m.seg) = (resolveConflicts P C segs).map (List.map m.seg) := by
  match segs, hz with
  | [], _ => rfl
  | [a], _ => rfl
  | a :: b :: t, hz =>
    simp only [List.map_cons, resolveConflicts]
    rw [← List.map_cons, ← List.map_cons, chainSegs_map h]
    cases hc : chainSegs P C (a :: b :: t) with
    | none => rfl
    | some out =>
      have hm := chainSegs_subset hc
      cases out with
      | nil => rfl
      | cons c cs =>
        exact resolveFrom_gen P QL QR hstep hpres cs c (hz c (hm c (by simp))).1
          fun s hs => (hz s (hm s (List.mem_cons_of_mem _ hs))).2

theorem resolveConflicts_null (P : Params) (C : ChainCfg) (segs : List Seg) (hz : ∀ s ∈ segs, m.NullOK s) :
    resolveConflicts P C (segs.map m.seg) = (resolveConflicts P C segs).map (List.map m.seg) := by
  apply resolveConflicts_gen h P C m.NullOK m.NullOK _ _ segs fun s hs => ⟨hz s hs, hz s hs⟩
  · intro L R hL _; exact resolvePair_map h P L R fun _ => hL
  · intro L R l r _ hR hp
    obtain ⟨b, hB⟩ := ConflictAll.resolvePair_ok_iff.1 hp
    exact fun x hx => hR x ((resolve_sublist hB).2.1.subset hx)

theorem QL_seg {P : Params} {L : Seg} (hL : Translate.QL P L) : Translate.QL P (m.seg L) := by
  rcases hL with h0 | ⟨e, he, hall, hsuf⟩
  · left; simp [h0]
  · right
    refine ⟨m.pr e, ?_, ?_, ?_⟩
    · simp only [seg_items, List.getLast?_map, he]; rfl
    · intro p hp
      rw [seg_pairs] at hp
      obtain ⟨p', hp', rfl⟩ := List.mem_map.1 hp
      rw [pr_leqAny h]; exact hall p' hp'
    · intro a ha ⟨t, ht⟩
      obtain ⟨l1, l2, hl, _, rfl⟩ := List.map_eq_append_iff.1 ht.symm
      rw [m.sumScores_map]
      exact hsuf l2 (by intro h0; apply ha; simp [h0]) ⟨l1, hl.symm⟩

theorem resolveConflicts_factory (P : Params) (C : ChainCfg) (segs : List Seg)
    (hz : ∀ s ∈ segs, Translate.QL P s ∧ Translate.QR s) :
    resolveConflicts P C (segs.map m.seg) = (resolveConflicts P C segs).map (List.map m.seg) := by
  apply resolveConflicts_gen h P C (Translate.QL P) (fun s => Translate.QL P s ∧ Translate.QR s) _ _ segs
    fun s hs => ⟨(hz s hs).1, hz s hs⟩
  · intro L R hL _
    by_cases hR : R.items = []
    · rw [Translate.resolvePair_empty_right P hL hR,
        Translate.resolvePair_empty_right P (QL_seg h hL) (by simp [hR])]
      rfl
    · exact resolvePair_map h P L R fun h0 => absurd h0 hR
  · intro L R l r _ hR hp
    obtain ⟨b, hB⟩ := ConflictAll.resolvePair_ok_iff.1 hp
    have hsuf : r.items <:+ R.items :=
      (Conflict.step_right hB hR.2.1 (hR.2.2.imp_right fun ⟨c, tl, hc⟩ => ⟨c, by rw [hc]; rfl⟩)).1
    exact Translate.QL_suffix hR.1 hsuf

end

end PMap

/-- a decidable observation of `Except Err (List Seg)`, for the kernel-checked refutations of the statements without
    hypothesis -/
def firstLen (e : Except Err (List Seg)) : Nat :=
  match e with
  | .ok (s :: _) => s.items.length
  | _ => 0

end Coma.Proofs
