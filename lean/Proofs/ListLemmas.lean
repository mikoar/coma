namespace Coma.Proofs

theorem inj_of_nodup_map {α β} (f : α → β) {l : List α} (d : (l.map f).Nodup) :
    ∀ x ∈ l, ∀ y ∈ l, f x = f y → x = y := by
  have p : l.Pairwise (fun a b => f a ≠ f b) := List.pairwise_map.1 d
  exact fun x hx y hy => List.Pairwise.forall_of_forall_of_flip (R := fun x y => f x = f y → x = y)
    (fun _ _ _ => rfl) (p.imp fun h e => absurd e h) (p.imp fun h e => absurd e.symm h) hx hy

theorem nodup_of_nodup_map {α β} (f : α → β) {l : List α} (d : (l.map f).Nodup) : l.Nodup :=
  (List.pairwise_map.1 d).imp fun h e => h (congrArg f e)

theorem filterMap_map_some {α β γ} (g : β → Option γ) (f : α → β) (h : α → γ) (e : ∀ a, g (f a) = some (h a))
    (l : List α) : (l.map f).filterMap g = l.map h := by
  rw [List.filterMap_map, ← List.filterMap_eq_map]
  exact congrArg (fun k => List.filterMap k l) (funext e)

theorem filterMap_map_none {α β γ} (g : β → Option γ) (f : α → β) (e : ∀ a, g (f a) = none) (l : List α) :
    (l.map f).filterMap g = [] := by
  rw [List.filterMap_map]
  exact List.filterMap_eq_nil_iff.2 (fun a _ => e a)

theorem exists_mem_cons_of_not {α} {P : α → Prop} {a : α} {l : List α} (h : ¬ P a) :
    (∃ x ∈ a :: l, P x) ↔ ∃ x ∈ l, P x :=
  ⟨fun ⟨x, hx, hp⟩ => (List.mem_cons.mp hx).elim (fun e => absurd (e ▸ hp) h) fun hx => ⟨x, hx, hp⟩,
    fun ⟨x, hx, hp⟩ => ⟨x, List.mem_cons_of_mem _ hx, hp⟩⟩

theorem eq_nil_or_singleton {α} : ∀ {l : List α}, l.length ≤ 1 → l = [] ∨ ∃ a, l = [a]
  | [], _ => .inl rfl
  | [a], _ => .inr ⟨a, rfl⟩
  | _ :: _ :: _, h => absurd h (by simp)

theorem mem_takeWhile_imp {α} {p : α → Bool} {l : List α} {x : α} (h : x ∈ l.takeWhile p) : p x = true :=
  List.all_eq_true.mp List.all_takeWhile x h

theorem dropWhile_eq_cons {α} {p : α → Bool} {l : List α} {s : α} {t : List α}
    (h : l.dropWhile p = s :: t) : p s = false := by
  have := List.head?_dropWhile_not p l
  rw [h] at this
  simpa using this

theorem takeWhile_eq_self {α} {p : α → Bool} {l : List α} (h : ∀ x ∈ l, p x = true) :
    l.takeWhile p = l := by
  simpa using List.takeWhile_append_of_pos (l₂ := []) h

theorem takeWhile_none {α} {p : α → Bool} {B : List α} (h : ∀ b ∈ B, p b = false) :
    B.takeWhile p = [] := by
  cases B with
  | nil => rfl
  | cons b bs => rw [List.takeWhile_cons, h b List.mem_cons_self]; rfl

theorem dropWhile_none {α} {p : α → Bool} {B : List α} (h : ∀ b ∈ B, p b = false) :
    B.dropWhile p = B := by
  cases B with
  | nil => rfl
  | cons b bs => rw [List.dropWhile_cons, h b List.mem_cons_self]; rfl

theorem dropWhile_congr_mem {α} (p q : α → Bool) : ∀ (l : List α), (∀ x ∈ l, p x = q x) →
    l.dropWhile p = l.dropWhile q
  | [], _ => rfl
  | x :: xs, h => by
    have hx := h x (by simp)
    simp only [List.dropWhile_cons, hx]
    split
    · exact dropWhile_congr_mem p q xs (fun y hy => h y (List.mem_cons_of_mem _ hy))
    · rfl

theorem takeWhile_eq_filter {α} (p : α → Bool) : ∀ l : List α, l.Pairwise (fun a b => p b = true → p a = true) →
    l.takeWhile p = l.filter p
  | [], _ => rfl
  | a :: l, h => by
    rw [List.pairwise_cons] at h
    rw [List.takeWhile_cons, List.filter_cons]
    cases ha : p a with
    | true => exact congrArg (a :: ·) (takeWhile_eq_filter p l h.2)
    | false =>
      refine (List.filter_eq_nil_iff.2 fun b hb hpb => ?_).symm
      rw [h.1 b hb hpb] at ha
      cases ha

theorem dropWhile_eq_filter {α} (p : α → Bool) : ∀ l : List α, l.Pairwise (fun a b => p b = true → p a = true) →
    l.dropWhile p = l.filter (fun a => !p a)
  | [], _ => rfl
  | a :: l, h => by
    rw [List.pairwise_cons] at h
    rw [List.dropWhile_cons, List.filter_cons]
    cases ha : p a with
    | true => exact dropWhile_eq_filter p l h.2
    | false =>
      refine congrArg (a :: ·) (List.filter_eq_self.2 fun b hb => ?_).symm
      cases hb' : p b with
      | false => rfl
      | true => rw [h.1 b hb hb'] at ha; cases ha

theorem flatMap_congr' {α β} (f g : α → List β) (l : List α) (h : ∀ a ∈ l, f a = g a) : l.flatMap f = l.flatMap g := by
  rw [List.flatMap_def, List.flatMap_def, List.map_congr_left h]

theorem flatMap_filter_of_nil {α β} (p : α → Bool) (f : α → List β) : ∀ (l : List α),
    (∀ x ∈ l, p x = false → f x = []) → (l.filter p).flatMap f = l.flatMap f
  | [], _ => rfl
  | x :: l, h => by
    have ih := flatMap_filter_of_nil p f l fun y hy => h y (List.mem_cons_of_mem _ hy)
    rw [List.filter_cons, List.flatMap_cons]
    cases hp : p x with
    | true => rw [if_pos rfl, List.flatMap_cons, ih]
    | false => rw [if_neg Bool.false_ne_true, ih, h x List.mem_cons_self hp, List.nil_append]

theorem flatMap_filter_nonempty {α β} (f : List α → List β) (hf : f [] = []) (GS : List (List α)) :
    (GS.filter (fun g => !g.isEmpty)).flatMap f = GS.flatMap f :=
  flatMap_filter_of_nil _ f GS fun g _ hg => by
    cases g with
    | nil => exact hf
    | cons => cases hg

theorem pairwise_ge_head {α} {R : α → α → Prop} {l : List α} {c : α} (h : l.Pairwise R)
    (hc : l.head? = some c) : ∀ p ∈ l, p = c ∨ R c p := by
  obtain ⟨ys, rfl⟩ := List.head?_eq_some_iff.mp hc
  intro p hp
  rcases List.mem_cons.mp hp with hp | hp
  · exact Or.inl hp
  · exact Or.inr (List.rel_of_pairwise_cons h hp)

theorem pairwise_le_last {α} {R : α → α → Prop} {l : List α} {c : α} (h : l.Pairwise R)
    (hc : l.getLast? = some c) : ∀ p ∈ l, p = c ∨ R p c := fun p hp =>
  pairwise_ge_head (R := fun a b => R b a) (List.pairwise_reverse.mpr h) (by rw [List.head?_reverse, hc]) p
    (List.mem_reverse.mpr hp)

theorem eq_of_sorted_of_mem {α} (key : α → Int) (l1 l2 : List α)
    (h1 : l1.Pairwise (fun a b => key a < key b)) (h2 : l2.Pairwise (fun a b => key a < key b))
    (h : ∀ x, x ∈ l1 ↔ x ∈ l2) : l1 = l2 := by
  have ne : ∀ {a b : α}, key a < key b → a ≠ b := fun hab e => by rw [e] at hab; omega
  exact List.Perm.eq_of_pairwise (le := fun a b => key a < key b) (fun a b _ _ hab hba => by omega) h1 h2
    ((List.perm_ext_iff_of_nodup (h1.imp ne) (h2.imp ne)).2 h)

theorem getLast?_of_suffix {α} {s l : List α} (h : s <:+ l) (hs : s ≠ []) : s.getLast? = l.getLast? := by
  rw [List.getLast?_eq_some_getLast hs, h.getLast hs, ← List.getLast?_eq_some_getLast]

theorem sublist_snoc_split {α} {c : List α} {y : α} {l : List α} (h : (c ++ [y]).Sublist l) :
    ∃ k, l[k]? = some y ∧ c.Sublist (l.take k) := by
  rw [List.append_sublist_iff] at h
  obtain ⟨r₁, r₂, rfl, h1, h2⟩ := h
  have hy : y ∈ r₂ := by simpa using h2
  obtain ⟨s, t, rfl⟩ := List.append_of_mem hy
  refine ⟨(r₁ ++ s).length, ?_, ?_⟩
  · rw [← List.append_assoc]; simp
  · rw [← List.append_assoc, List.take_left' rfl]
    exact h1.trans (List.sublist_append_left _ _)

theorem filterMap_idx_sublist {α} (l : List α) (is : List Nat) (h : is.Pairwise (· < ·))
    (hlt : ∀ i ∈ is, i < l.length) : (is.filterMap (fun i => l[i]?)).Sublist l := by
  have e : is.filterMap (fun i => l[i]?) = (is.pmap Fin.mk hlt).map (l[·]) := by
    rw [List.map_pmap]
    induction is with
    | nil => rfl
    | cons i is ih =>
      rw [List.filterMap_cons, List.getElem?_eq_getElem (hlt i (by simp))]
      simp only [List.pmap_cons]
      rw [ih (List.Pairwise.of_cons h) fun j hj => hlt j (List.mem_cons_of_mem _ hj)]
      rfl
  rw [e]
  exact List.map_getElem_sublist (h.pmap hlt fun _ _ _ _ hab => hab)

theorem countP_eq_of_nodup {α} (p : α → Bool) {l1 l2 : List α} (h1 : l1.Nodup) (h2 : l2.Nodup)
    (h : ∀ x, p x = true → (x ∈ l1 ↔ x ∈ l2)) : l1.countP p = l2.countP p := by
  rw [List.countP_eq_length_filter, List.countP_eq_length_filter]
  apply List.Perm.length_eq
  rw [List.perm_ext_iff_of_nodup (List.filter_sublist.nodup h1) (List.filter_sublist.nodup h2)]
  intro x
  simp only [List.mem_filter]
  exact ⟨fun ⟨a, b⟩ => ⟨(h x b).1 a, b⟩, fun ⟨a, b⟩ => ⟨(h x b).2 a, b⟩⟩

theorem run_infix {α} (xs : List α) (a n : Nat) : (xs.drop a).take n <:+: xs :=
  (List.take_prefix _ _).isInfix.trans (List.drop_suffix _ _).isInfix

theorem run_head {α} (xs : List α) (a b : Nat) (hab : a < b) :
    ((xs.drop a).take (b - a)).head? = xs[a]? := by
  rw [List.head?_take, if_neg (by omega), List.head?_drop]

theorem run_last {α} (xs : List α) (a b : Nat) (hab : a < b) (hb : b ≤ xs.length) :
    ((xs.drop a).take (b - a)).getLast? = xs[b - 1]? := by
  rw [List.getLast?_eq_getElem?, List.length_take, List.length_drop, Nat.min_eq_left (by omega), List.getElem?_take,
    if_pos (by omega), List.getElem?_drop]
  exact congrArg (xs[·]?) (by omega)

section GetD
variable {α : Type _} {d : α}

theorem getD_of_length_le (l : List α) {i : Nat} (h : l.length ≤ i) : l.getD i d = d := by
  rw [List.getD_eq_getElem?_getD, List.getElem?_eq_none h, Option.getD_none]

theorem getD_drop (v : List α) (s i : Nat) : (v.drop s).getD i d = v.getD (s + i) d := by
  rw [List.getD_eq_getElem?_getD, List.getD_eq_getElem?_getD, List.getElem?_drop]

theorem getD_reverse (v : List α) (i : Nat) (hi : i < v.length) :
    v.reverse.getD i d = v.getD (v.length - 1 - i) d := by
  rw [List.getD_eq_getElem?_getD, List.getD_eq_getElem?_getD, List.getElem?_reverse hi]

theorem getD_rep_lt (k i : Nat) (l : List α) (h : i < k) : (List.replicate k d ++ l).getD i d = d := by
  simp [List.getD_eq_getElem?_getD, List.getElem?_append, h]

theorem getD_rep_ge (k j : Nat) (l : List α) : (List.replicate k d ++ l).getD (k + j) d = l.getD j d := by
  have h : ¬ k + j < k := by omega
  simp [List.getD_eq_getElem?_getD, List.getElem?_append, h]

theorem mem_iff_getD (d : α) (l : List α) (p : α) : p ∈ l ↔ ∃ m, m < l.length ∧ p = l.getD m d := by
  constructor
  · intro h
    obtain ⟨m, hm, rfl⟩ := List.mem_iff_getElem.mp h
    exact ⟨m, hm, List.getElem_eq_getD d⟩
  · rintro ⟨m, hm, rfl⟩
    rw [← List.getElem_eq_getD (h := hm) d]
    exact List.getElem_mem hm

theorem pairwise_getD (d : α) (l : List α) (R : α → α → Prop) (h : l.Pairwise R) (m m' : Nat)
    (h1 : m < m') (h2 : m' < l.length) : R (l.getD m d) (l.getD m' d) := by
  rw [← List.getElem_eq_getD (h := Nat.lt_trans h1 h2) d, ← List.getElem_eq_getD (h := h2) d]
  exact List.pairwise_iff_getElem.mp h m m' (Nat.lt_trans h1 h2) h2 h1

end GetD

theorem class_length_le_one {α} (key : α → Int) (k : Int) : ∀ (l : List α), (l.map key).Nodup →
    (l.filter (fun a => decide (key a = k))).length ≤ 1
  | [], _ => by simp
  | a :: l, hn => by
    rw [List.map_cons, List.nodup_cons] at hn
    rw [List.filter_cons]
    split
    · next hk =>
      simp only [decide_eq_true_eq] at hk
      have : l.filter (fun a => decide (key a = k)) = [] := by
        refine List.filter_eq_nil_iff.2 fun b hb hbk => hn.1 (List.mem_map.2 ⟨b, hb, ?_⟩)
        simp only [decide_eq_true_eq] at hbk
        rw [hbk, hk]
      rw [this]
      simp
    · exact class_length_le_one key k l hn.2

theorem filter_eq_of_perm {α} (p : α → Bool) {l l' : List α} (hp : l.Perm l') (h1 : (l.filter p).length ≤ 1) :
    l.filter p = l'.filter p := by
  have hf := hp.filter p
  rcases eq_nil_or_singleton h1 with e | ⟨a, e⟩
  · rw [e] at hf ⊢
    exact hf.nil_eq
  · rw [e] at hf ⊢
    exact (List.perm_singleton.1 hf.symm).symm

theorem find?_eq_of_perm {α} (p : α → Bool) {l l' : List α} (hp : l.Perm l') (h1 : (l.filter p).length ≤ 1) :
    l.find? p = l'.find? p := by
  rw [← List.head?_filter, ← List.head?_filter, filter_eq_of_perm p hp h1]

theorem class_perm {α} (key : α → Int) (k : Int) {l l' : List α} (hp : l.Perm l')
    (hn : (l.map key).Nodup) :
    l.filter (fun a => decide (key a = k)) = l'.filter (fun a => decide (key a = k)) :=
  filter_eq_of_perm _ hp (class_length_le_one key k l hn)

theorem class_singleton {α} (key : α → Int) {l : List α} {a : α} (ha : a ∈ l)
    (hn : (l.map key).Nodup) : l.filter (fun b => decide (key b = key a)) = [a] := by
  have hm : a ∈ l.filter (fun b => decide (key b = key a)) := List.mem_filter.2 ⟨ha, by simp⟩
  rcases eq_nil_or_singleton (class_length_le_one key (key a) l hn) with e | ⟨b, e⟩
  · rw [e] at hm
    cases hm
  · rw [e] at hm ⊢
    rw [List.mem_singleton.1 hm]

theorem eq_of_sorted_of_classes {α} (key : α → Int) (l1 l2 : List α) (h1 : (l1.map key).Pairwise (· < ·))
    (h2 : (l2.map key).Pairwise (· < ·))
    (h : ∀ k, l1.filter (fun y => decide (key y = k)) = l2.filter (fun y => decide (key y = k))) : l1 = l2 := by
  refine eq_of_sorted_of_mem key l1 l2 (List.pairwise_map.1 h1) (List.pairwise_map.1 h2) fun x => ?_
  have hx : ∀ l : List α, x ∈ l ↔ x ∈ l.filter (fun y => decide (key y = key x)) := fun l =>
    ⟨fun m => List.mem_filter.2 ⟨m, decide_eq_true rfl⟩, fun m => (List.mem_filter.1 m).1⟩
  rw [hx l1, hx l2, h]

theorem filterMap_keys_sublist {α β γ} (ka : α → γ) (kb : β → γ) (G : α → Option β) :
    ∀ l : List α, (∀ a ∈ l, ∀ b, G a = some b → kb b = ka a) → ((l.filterMap G).map kb).Sublist (l.map ka)
  | [], _ => List.Sublist.slnil
  | a :: l, h => by
    have ih := filterMap_keys_sublist ka kb G l fun x hx => h x (List.mem_cons_of_mem _ hx)
    cases hG : G a with
    | none => rw [List.filterMap_cons_none hG]; exact ih.cons _
    | some b =>
      rw [List.filterMap_cons_some hG, List.map_cons, List.map_cons, h a List.mem_cons_self b hG]
      exact ih.cons_cons _

end Coma.Proofs
