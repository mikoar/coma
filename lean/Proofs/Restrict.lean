import Props.Defs
import Proofs.Fields
import Proofs.Select
import Proofs.Modes
import Proofs.Execute
/-
  C10: a query's records do not depend on the other molecules.  Restriction to the rows of one query id (`F id`)
  commutes with every stage of a run: the second-pass rows of a query come from the fragments of its first-pass rows,
  a group of `resolveRows` holds rows of one query, so it is kept whole or dropped whole.  Hence a run on the molecules
  of one id writes the restriction of every file (`execute_restrict_class`), and a run depends on the query list only
  through the per-id classes of its rows (`execRest_congr`, `execute_perm`).
-/
namespace Coma.Proofs
open Coma.Spec Coma.Proofs.Select Coma.Proofs.Modes Coma.Proofs.Fields Coma.Proofs.Exc

theorem keptRow_qid {cfg : Cfg} {refs : List OMap} {t : SeedTable} {it : Int} {q : OMap} {r : Row}
    (h : keptRow cfg refs t it q = some r) : r.queryId = q.id := by
  have hk := (keepRow_some h).1
  cases hp : perQuery cfg refs (t.lookup q.key) q it with
  | error e => rw [hp] at hk; cases hk
  | ok o =>
    rw [hp, toOk_ok] at hk
    subst hk
    obtain ⟨_, _, _, _, ha⟩ := perQuery_origin hp
    exact (alignerAlign_fields _ _ _ _ _ _ _ _ ha).1

theorem executeSingle_ids (cfg : Cfg) (refs : List OMap) (t : SeedTable) (qs : List OMap) (it : Int) (rows : List Row)
    (h : executeSingle cfg refs t qs it = .ok rows) :
    (rows.map (·.queryId)).Sublist (qs.map (·.id)) := by
  obtain ⟨_, rfl⟩ := (executeSingle_ok_iff cfg refs t qs it rows).1 h
  exact filterMap_keys_sublist (·.id) (·.queryId) _ qs fun _ _ _ hk => keptRow_qid hk

namespace Restrict

theorem F_append (id : Int) (a b : List Row) : F id (a ++ b) = F id a ++ F id b := List.filter_append _ _

theorem resolveGroup_mem {P0 : Params} {d : Int} {g j1 s1 : List Row} (h : resolveGroup P0 d g = .ok (j1, s1)) :
    (∀ r ∈ j1, ∃ x ∈ g, r.queryId = x.queryId) ∧ (∀ r ∈ s1, r ∈ g) := by
  rcases resolveGroup_ok h with ⟨x, y, rest, r, rfl, _, hj, rfl, rfl⟩ | ⟨rfl, rfl⟩
  · refine ⟨fun r' hr' => ?_, by simp⟩
    cases List.mem_singleton.1 hr'
    exact ⟨x, List.mem_cons_self, (joinRows_subset P0 x y r hj).2.1⟩
  · exact ⟨by simp, fun r hr => hr⟩

def hasId (id : Int) (g : List Row) : Bool := g.any (fun r => decide (r.queryId = id))

/-- `l` is what comes from a group of one query: its rows, or the row joined from two of them -/
theorem F_of_group {id : Int} {g l : List Row} (hu : ∀ a ∈ g, ∀ b ∈ g, a.queryId = b.queryId)
    (hl : ∀ r ∈ l, ∃ x ∈ g, r.queryId = x.queryId) : F id l = if hasId id g then l else [] := by
  unfold hasId
  split
  · next h =>
    obtain ⟨y, hy, hyi⟩ := List.any_eq_true.1 h
    refine List.filter_eq_self.2 fun r hr => ?_
    obtain ⟨x, hx, hq⟩ := hl r hr
    rw [hq, hu x hx y hy]
    exact hyi
  · next h =>
    refine List.filter_eq_nil_iff.2 fun r hr hri => h ?_
    obtain ⟨x, hx, hq⟩ := hl r hr
    exact List.any_eq_true.2 ⟨x, hx, by rw [← hq]; exact hri⟩

theorem resolveGroups_filter (P0 : Params) (d : Int) (id : Int) (gs : List (List Row)) (J S : List Row)
    (hu : ∀ g ∈ gs, ∀ a ∈ g, ∀ b ∈ g, a.queryId = b.queryId)
    (h : resolveGroups P0 d gs = .ok (J, S)) :
    resolveGroups P0 d (gs.filter (hasId id)) = .ok (F id J, F id S) := by
  revert hu
  refine resolveGroups_ind (fun gs J S => (∀ g ∈ gs, ∀ a ∈ g, ∀ b ∈ g, a.queryId = b.queryId) →
    resolveGroups P0 d (gs.filter (hasId id)) = .ok (F id J, F id S)) (fun _ => rfl) ?_ h
  intro g gs j s j1 s1 _ ih hs hu
  have ih := ih fun g hg => hu g (List.mem_cons_of_mem _ hg)
  obtain ⟨hj1, hs1⟩ := resolveGroup_mem hs
  have hug := hu g List.mem_cons_self
  rw [F_append, F_append, F_of_group hug hj1, F_of_group hug fun r hr => ⟨r, hs1 r hr, rfl⟩, List.filter_cons]
  cases hasId id g with
  | true =>
    rw [if_pos rfl, if_pos rfl, if_pos rfl, resolveGroups_cons, ih, hs]
    rfl
  | false => exact ih

theorem uniform_filter (id : Int) : ∀ (GS : List (List Row)),
    (∀ g ∈ GS, ∀ a ∈ g, ∀ b ∈ g, a.queryId = b.queryId) →
    (GS.map (F id)).filter (fun g => !g.isEmpty) = GS.filter (hasId id)
  | [], _ => rfl
  | g :: GS, hu => by
    have ih := uniform_filter id GS (fun g hg => hu g (List.mem_cons_of_mem _ hg))
    rw [List.map_cons, List.filter_cons, List.filter_cons, ih,
      F_of_group (hu g List.mem_cons_self) fun r hr => ⟨r, hr, rfl⟩]
    cases hP : hasId id g with
    | true =>
      -- a group that has a row of the query is not empty
      cases g with
      | nil => cases hP
      | cons x g' => rfl
    | false => rfl

theorem groupsOf_filter (id : Int) (rows : List Row) :
    groupsOf (F id rows) = (groupsOf rows).filter (hasId id) := by
  unfold groupsOf
  rw [← filter_isort_comm, groupAdj_filter _ _ _ (isort_sorted _ _),
    flatMap_filter_nonempty _ rfl, List.flatMap_map, List.filter_flatMap]
  apply flatMap_congr'
  intro G _
  rw [← filter_isort_comm, groupAdj_filter _ _ _ (isort_sorted _ _)]
  exact uniform_filter id _ (groupAdj_key_eq (fun (r : Row) => r.queryId) _)

theorem resolveRows_filter (P0 : Params) (d : Int) (id : Int) (rows J S : List Row)
    (h : resolveRows P0 d rows = .ok (J, S)) :
    resolveRows P0 d (F id rows) = .ok (F id J, F id S) := by
  rw [resolveRows_eq] at h ⊢
  rw [groupsOf_filter]
  exact resolveGroups_filter P0 d id _ J S (fun g hg => groupsOf_qid hg) h

theorem contains_F (id : Int) (l : List Row) :
    ((F id l).map (·.queryId)).contains id = (l.map (·.queryId)).contains id := by
  rw [Bool.eq_iff_iff, List.contains_iff_mem, List.contains_iff_mem, List.mem_map, List.mem_map]
  constructor
  · rintro ⟨r, hr, he⟩
    exact ⟨r, (List.mem_filter.1 hr).1, he⟩
  · rintro ⟨r, hr, he⟩
    exact ⟨r, List.mem_filter.2 ⟨hr, by simpa using he⟩, he⟩

theorem F_best (id : Int) (J f1 : List Row) :
    F id (f1.filter (fun r => !(J.map (·.queryId)).contains r.queryId)) =
      (F id f1).filter (fun r => !((F id J).map (·.queryId)).contains r.queryId) := by
  unfold F
  rw [List.filter_filter, List.filter_filter]
  apply List.filter_congr
  intro x _
  by_cases hx : x.queryId = id
  · simp only [hx, decide_true, Bool.true_and, Bool.and_true]
    rw [contains_F]
  · simp [hx]

theorem pass1_filter (mode : Mode) (id : Int) (first second : List Row) :
    F id (pass1 mode first second) = pass1 mode (F id first) (F id second) := by
  unfold pass1
  rw [fbq_filter]
  split
  · rw [F_append]
  · rfl

theorem finish_restrict (mode : Mode) (id : Int) (f1 f2 j s : List Row) :
    restrictOutput (finish mode f1 f2 j s) id = finish mode (F id f1) (F id f2) (F id j) (F id s) := by
  cases mode <;>
    simp only [finish, restrictOutput, List.map_cons, List.map_nil, fbq_filter, filter_isort_comm, F_append, F_best]

theorem execRest_restrict (cfg : Cfg) (mode : Mode) (first second : List Row) (o : Output) (id : Int)
    (h : execRest cfg mode first second = .ok o) :
    execRest cfg mode (F id first) (F id second) = .ok (restrictOutput o id) := by
  by_cases hs : mode = .separate
  · subst hs
    rw [execRest_separate] at h
    cases h
    simp only [execRest_separate, restrictOutput, List.map_cons, List.map_nil, fbq_filter]
  · obtain ⟨j, s, hr, rfl⟩ := (execRest_ok_iff hs).mp h
    refine (execRest_ok_iff hs).mpr ⟨F id j, F id s, ?_, ?_⟩
    · rw [← pass1_filter, ← fbq_filter, ← F_append]
      exact resolveRows_filter _ _ id _ _ _ hr
    · rw [finish_restrict, pass1_filter, fbq_filter]

theorem execRest_congr (cfg : Cfg) (mode : Mode) (first second first' second' : List Row)
    (h1 : ∀ id, F id first = F id first') (h2 : ∀ id, F id second = F id second') :
    execRest cfg mode first second = execRest cfg mode first' second' := by
  have e1 : pass1 mode first second = pass1 mode first' second' := by
    unfold pass1
    refine fbq_ext _ _ fun id => ?_
    split
    · rw [F_append, F_append, h1 id, h2 id]
    · exact h1 id
  rw [execRest_eq, execRest_eq, e1, fbq_ext second second' h2]

theorem F_filterMap_keptRow (cfg : Cfg) (refs : List OMap) (t : SeedTable) (it : Int) (id : Int) (qs : List OMap) :
    F id (qs.filterMap (keptRow cfg refs t it)) =
      (qs.filter (fun m => decide (m.id = id))).filterMap (keptRow cfg refs t it) := by
  show List.filter _ _ = _
  rw [List.filter_filterMap, List.filterMap_filter]
  refine congrArg (List.filterMap · qs) (funext fun q => ?_)
  cases hk : keptRow cfg refs t it q with
  | none => split <;> rfl
  | some r => rw [Option.filter_some, keptRow_qid hk]

def frag (qs : List OMap) (r : Row) : List OMap := toOk (unalignedFragments r qs)

theorem frag_id (qs : List OMap) (r : Row) : ∀ f ∈ frag qs r, f.id = r.queryId := by
  unfold frag
  cases h : unalignedFragments r qs with
  | error e => exact fun f hf => nomatch hf
  | ok fl => exact unalignedFragments_id r qs fl h

theorem filter_frags (qs : List OMap) (id : Int) (first : List Row) :
    (first.flatMap (frag qs)).filter (fun m => decide (m.id = id)) = (F id first).flatMap (frag qs) := by
  -- the fragments of a row carry its id: they are all kept, or all dropped
  rw [List.filter_flatMap, ← flatMap_filter_of_nil (fun r : Row => decide (r.queryId = id))]
  · refine flatMap_congr' _ _ _ fun r hr => List.filter_eq_self.2 fun f hf => ?_
    rw [frag_id qs r f hf]
    exact (List.mem_filter.1 hr).2
  · refine fun r _ hr => List.filter_eq_nil_iff.2 fun f hf => ?_
    rw [frag_id qs r f hf, hr]
    exact Bool.false_ne_true

theorem secondPass_ok_iff_frag (cfg : Cfg) (refs : List OMap) (t : SeedTable) (qs : List OMap) (first : List Row) (it : Int)
    (second : List Row) :
    secondPass cfg refs t qs first it = .ok second ↔
      (∀ r ∈ first, ∃ fl, unalignedFragments r qs = .ok fl) ∧
      (∀ f ∈ first.flatMap (frag qs), ∃ o, perQuery cfg refs (t.lookup f.key) f it = .ok o) ∧
      second = ((first.flatMap (frag qs)).filterMap (keptRow cfg refs t it)).map flagRest := by
  have hfl : (first.map fun r => toOk (unalignedFragments r qs)).flatten = first.flatMap (frag qs) :=
    (List.flatMap_def ..).symm
  rw [secondPass_ok_iff]
  constructor
  · rintro ⟨frags, rows, hf, he, rfl⟩
    obtain ⟨h1, rfl⟩ := (mapM_ok_iff _ first frags).1 hf
    rw [hfl] at he
    obtain ⟨h3, rfl⟩ := (executeSingle_ok_iff cfg refs t _ it rows).1 he
    exact ⟨h1, h3, rfl⟩
  · rintro ⟨h1, h3, rfl⟩
    refine ⟨_, _, (mapM_ok_iff _ first _).2 ⟨h1, rfl⟩, ?_, rfl⟩
    rw [hfl]
    exact (executeSingle_ok_iff cfg refs t _ it _).2 ⟨h3, rfl⟩

theorem secondPass_filter (cfg : Cfg) (refs : List OMap) (t : SeedTable) (qs : List OMap) (first : List Row) (it : Int)
    (second : List Row) (h : secondPass cfg refs t qs first it = .ok second) (id : Int) :
    F id second = (((F id first).flatMap (frag qs)).filterMap (keptRow cfg refs t it)).map flagRest := by
  obtain ⟨_, _, rfl⟩ := (secondPass_ok_iff_frag cfg refs t qs first it second).1 h
  rw [← filter_frags, ← F_filterMap_keptRow]
  exact List.filter_map

theorem executeSingle_restrict {cfg : Cfg} {refs : List OMap} {t : SeedTable} {qs : List OMap} {it : Int}
    {first : List Row} (id : Int) (he : executeSingle cfg refs t qs it = .ok first) :
    executeSingle cfg refs t (qs.filter fun m => decide (m.id = id)) it = .ok (F id first) := by
  obtain ⟨hpq, rfl⟩ := (executeSingle_ok_iff cfg refs t qs it first).1 he
  exact (executeSingle_ok_iff ..).2 ⟨fun q hq => hpq q (List.mem_filter.1 hq).1, F_filterMap_keptRow ..⟩

theorem secondPass_restrict {cfg : Cfg} {refs : List OMap} {t : SeedTable} {qs : List OMap} {it : Int}
    {first second : List Row} (id : Int) (hs : secondPass cfg refs t qs first it = .ok second) :
    secondPass cfg refs t (qs.filter fun m => decide (m.id = id)) (F id first) it = .ok (F id second) := by
  -- a row of this id finds the same molecule among those of its id as among all, so its fragments are the same
  have hfind : ∀ r ∈ F id first,
      unalignedFragments r (qs.filter fun m => decide (m.id = id)) = unalignedFragments r qs := by
    intro r hr
    have hrq : r.queryId = id := by simpa using (List.mem_filter.1 hr).2
    apply unalignedFragments_congr
    rw [List.find?_filter, hrq]
    simp
  rw [secondPass_congr hfind]
  obtain ⟨hfr, hpf, _⟩ := (secondPass_ok_iff_frag cfg refs t qs first it second).1 hs
  refine (secondPass_ok_iff_frag ..).2 ⟨fun r hr => hfr r (List.mem_filter.1 hr).1, fun f hf => ?_,
    secondPass_filter cfg refs t qs first it second hs id⟩
  obtain ⟨r, hr, hfr'⟩ := List.mem_flatMap.1 hf
  exact hpf f (List.mem_flatMap.2 ⟨r, (List.mem_filter.1 hr).1, hfr'⟩)

end Restrict
open Restrict

theorem execute_restrict_class (cfg : Cfg) (mode : Mode) (refs : List OMap) (t : SeedTable) (qs : List OMap) (it : Int)
    (id : Int) (o : Output) (h : execute cfg mode refs t qs it = .ok o) :
    execute cfg mode refs t (qs.filter fun m => decide (m.id = id)) it = .ok (restrictOutput o id) := by
  obtain ⟨first, he, h⟩ := execute_ok_iff.mp h
  refine execute_ok_iff.mpr ⟨F id first, executeSingle_restrict id he, ?_⟩
  split at h
  · next hm =>
    rw [if_pos hm, h]
    simp only [restrictOutput, List.map_nil, fbq_filter]
  · next hm =>
    rw [if_neg hm]
    obtain ⟨second, hs, h⟩ := h
    exact ⟨F id second, secondPass_restrict id hs, execRest_restrict cfg mode first second o id h⟩

theorem execute_restrict_eq (cfg : Cfg) (mode : Mode) (refs : List OMap) (t : SeedTable) (qs : List OMap) (it : Int)
    (q : OMap) (hq : q ∈ qs) (hn : (qs.map (·.id)).Nodup) (o : Output)
    (h : execute cfg mode refs t qs it = .ok o) :
    execute cfg mode refs t [q] it = .ok (restrictOutput o q.id) := by
  have := execute_restrict_class cfg mode refs t qs it q.id o h
  rwa [class_singleton (fun (m : OMap) => m.id) hq hn] at this

theorem execute_restrict (cfg : Cfg) (mode : Mode) (refs : List OMap) (t : SeedTable) (qs : List OMap) (it : Int)
    (q : OMap) (hq : q ∈ qs) (hn : (qs.map (·.id)).Nodup) (o o1 : Output)
    (h : execute cfg mode refs t qs it = .ok o) (h1 : execute cfg mode refs t [q] it = .ok o1) :
    restrictOutput o q.id = o1 := by
  rw [execute_restrict_eq cfg mode refs t qs it q hq hn o h] at h1
  injection h1

theorem execute_drop_unalignable (cfg : Cfg) (mode : Mode) (refs : List OMap) (t : SeedTable) (qs1 qs2 : List OMap) (q : OMap) (it : Int)
    (hseed : t.lookup q.key = []) (hn : ((qs1 ++ q :: qs2).map (·.id)).Nodup) :
    execute cfg mode refs t (qs1 ++ q :: qs2) it = execute cfg mode refs t (qs1 ++ qs2) it := by
  refine execute_congr ?_ fun first he r hr => unalignedFragments_congr r _ _ ?_
  · rw [executeSingle_append, executeSingle_unalignable cfg refs t q qs2 it hseed, ← executeSingle_append]
  · -- no first-pass row has the id of `q`, so no look-up sees it
    have hqid : q.id ∉ (qs1 ++ qs2).map (·.id) := (List.nodup_cons.1 ((List.perm_middle.map _).nodup hn)).1
    have hne : q.id ≠ r.queryId := fun e =>
      hqid (e ▸ (executeSingle_ids cfg refs t (qs1 ++ qs2) it first he).subset (List.mem_map_of_mem hr))
    simp [List.find?_append, hne]

theorem execute_perm (cfg : Cfg) (mode : Mode) (refs : List OMap) (t : SeedTable) (qs qs' : List OMap) (it : Int)
    (hp : qs.Perm qs') (hn : (qs.map (·.id)).Nodup) (o o' : Output)
    (h : execute cfg mode refs t qs it = .ok o) (h' : execute cfg mode refs t qs' it = .ok o') :
    o = o' := by
  obtain ⟨first, he, h⟩ := execute_ok_iff.mp h
  obtain ⟨first', he', h'⟩ := execute_ok_iff.mp h'
  obtain ⟨_, hfirst⟩ := (executeSingle_ok_iff cfg refs t qs it first).1 he
  obtain ⟨_, hfirst'⟩ := (executeSingle_ok_iff cfg refs t qs' it first').1 he'
  have hF1 : ∀ id, F id first = F id first' := by
    intro id
    rw [hfirst, hfirst', F_filterMap_keptRow, F_filterMap_keptRow, class_perm (fun (m : OMap) => m.id) id hp hn]
  split at h
  · next hm =>
    rw [if_pos hm] at h'
    rw [h, h', fbq_ext first first' hF1]
  · next hm =>
    rw [if_neg hm] at h'
    obtain ⟨second, hs, h⟩ := h
    obtain ⟨second', hs', h'⟩ := h'
    have hfrag : frag qs = frag qs' := by
      funext r
      unfold frag
      rw [unalignedFragments_congr r qs qs' (find?_id_perm qs qs' r.queryId hp hn).symm]
    have hF2 : ∀ id, F id second = F id second' := by
      intro id
      rw [secondPass_filter cfg refs t qs first it second hs id,
        secondPass_filter cfg refs t qs' first' it second' hs' id, hF1 id, hfrag]
    rw [execRest_congr cfg mode first second first' second' hF1 hF2] at h
    exact Except.ok.inj (h.symm.trans h')

end Coma.Proofs
