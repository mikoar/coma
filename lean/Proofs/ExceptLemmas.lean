-- closed facts `x = .error e`, `x ≠ y` about the model are decided by evaluation (core has no such instance)
deriving instance DecidableEq for Except

namespace Coma.Proofs.Exc

variable {ε α β : Type _}

theorem bind_ok (m : Except ε α) (f : α → Except ε β) (b : β) :
    (m >>= f) = .ok b ↔ ∃ a, m = .ok a ∧ f a = .ok b := by
  cases m <;> simp [bind, Except.bind]

theorem bind_error (m : Except ε α) (f : α → Except ε β) (e : ε) :
    (m >>= f) = .error e ↔ m = .error e ∨ ∃ a, m = .ok a ∧ f a = .error e := by
  cases m <;> simp [bind, Except.bind]

theorem bind_map_congr {α' β' γ δ : Type _} {X : Except ε α} {Y : Except ε α'} {f : α → γ} {f' : α' → γ}
    {g : α → Except ε β} {g' : α' → Except ε β'} {h : β → δ} {h' : β' → δ}
    (hXY : X.map f = Y.map f') (hg : ∀ a b, f a = f' b → (g a).map h = (g' b).map h') :
    (X >>= g).map h = (Y >>= g').map h' := by
  cases X <;> cases Y <;>
    simp only [Except.map, Except.ok.injEq, Except.error.injEq, reduceCtorEq] at hXY
  · subst hXY; rfl
  · exact hg _ _ hXY

theorem bind_congr_of_map {γ : Type _} {X Y : Except ε α} {f : α → γ} {g : α → Except ε β}
    (hXY : X.map f = Y.map f) (hg : ∀ a b, f a = f b → g a = g b) : (X >>= g) = (Y >>= g) := by
  cases X <;> cases Y <;>
    simp only [Except.map, Except.ok.injEq, Except.error.injEq, reduceCtorEq] at hXY
  · subst hXY; rfl
  · exact hg _ _ hXY

/-- `b = f a`, in this direction, is how the model's `_ok` lemmas are stated and what `obtain ⟨a, h, rfl⟩` wants -/
theorem map_ok (x : Except ε α) (f : α → β) (b : β) : x.map f = .ok b ↔ ∃ a, x = .ok a ∧ b = f a := by
  cases x <;> simp [Except.map, eq_comm]

theorem map_error (x : Except ε α) (f : α → β) (e : ε) : x.map f = .error e ↔ x = .error e := by
  cases x <;> simp [Except.map]

theorem map_isOk (x : Except ε α) (f : α → β) : (∃ b, x.map f = .ok b) ↔ ∃ a, x = .ok a := by
  cases x <;> simp [Except.map]

theorem bind_pure_eq_map (x : Except ε α) (f : α → β) : (x >>= fun a => pure (f a)) = x.map f := by
  cases x <;> rfl

theorem map_map (x : Except ε α) (f : α → β) {γ : Type _} (g : β → γ) : (x.map f).map g = x.map (g ∘ f) := by
  cases x <;> rfl

theorem map_congr (x : Except ε α) (f g : α → β) (h : ∀ a, x = .ok a → f a = g a) : x.map f = x.map g := by
  cases x with
  | error e => rfl
  | ok a => exact congrArg Except.ok (h a rfl)

theorem map_map_congr {α' β' γ δ : Type _} {X : Except ε α} {Y : Except ε α'} {f : α → γ} {f' : α' → γ}
    {g : α → β} {g' : α' → β'} {h : β → δ} {h' : β' → δ}
    (hXY : X.map f = Y.map f') (hg : ∀ a b, f a = f' b → h (g a) = h' (g' b)) :
    (X.map g).map h = (Y.map g').map h' := by
  cases X <;> cases Y <;>
    simp only [Except.map, Except.ok.injEq, Except.error.injEq, reduceCtorEq] at hXY
  · subst hXY; rfl
  · exact congrArg Except.ok (hg _ _ hXY)

def toOk {ε β} [Inhabited β] : Except ε β → β
  | .ok b => b
  | .error _ => default

@[simp] theorem toOk_ok {ε β} [Inhabited β] (b : β) : toOk (Except.ok b : Except ε β) = b := rfl

theorem mapM_ok_iff {α β ε} [Inhabited β] (f : α → Except ε β) (l : List α) (out : List β) :
    l.mapM f = .ok out ↔ (∀ a ∈ l, ∃ b, f a = .ok b) ∧ out = l.map (fun a => toOk (f a)) := by
  induction l generalizing out with
  | nil => exact ⟨fun h => ⟨nofun, (Except.ok.inj h).symm⟩, fun h => h.2 ▸ rfl⟩
  | cons a l ih =>
    rw [List.mapM_cons, bind_ok]
    simp only [bind_ok, ih, List.mem_cons, forall_eq_or_imp, List.map_cons]
    constructor
    · rintro ⟨b, hb, _, ⟨hl, rfl⟩, h⟩
      exact ⟨⟨⟨b, hb⟩, hl⟩, by rw [← Except.ok.inj h, hb, toOk_ok]⟩
    · rintro ⟨⟨⟨b, hb⟩, hl⟩, rfl⟩
      exact ⟨b, hb, _, ⟨hl, rfl⟩, by rw [hb, toOk_ok]; rfl⟩

theorem mapM_filterMap_ok_iff {α β γ ε} [Inhabited β] (f : α → Except ε β) (g : β → Option γ) (l : List α)
    (out : List γ) : (l.mapM f).map (List.filterMap g) = .ok out ↔
      (∀ a ∈ l, ∃ b, f a = .ok b) ∧ out = l.filterMap (fun a => g (toOk (f a))) := by
  rw [map_ok]
  constructor
  · rintro ⟨bs, hbs, rfl⟩
    obtain ⟨h, rfl⟩ := (mapM_ok_iff f l bs).1 hbs
    exact ⟨h, List.filterMap_map⟩
  · rintro ⟨h, rfl⟩
    exact ⟨_, (mapM_ok_iff f l _).2 ⟨h, rfl⟩, List.filterMap_map.symm⟩

theorem mapM_ok_of_forall {α β ε} [Inhabited β] (f : α → Except ε β) (l : List α) (h : ∀ a ∈ l, ∃ b, f a = .ok b) :
    ∃ bs, l.mapM f = .ok bs :=
  ⟨_, (mapM_ok_iff f l _).2 ⟨h, rfl⟩⟩

theorem mapM_ok_mem {α β ε} [Inhabited β] (f : α → Except ε β) (l : List α) (bs : List β) (h : l.mapM f = .ok bs) :
    ∀ b ∈ bs, ∃ a ∈ l, f a = .ok b := by
  obtain ⟨hall, rfl⟩ := (mapM_ok_iff f l bs).1 h
  intro b hb
  obtain ⟨a, ha, rfl⟩ := List.mem_map.1 hb
  obtain ⟨b', hb'⟩ := hall a ha
  exact ⟨a, ha, by rw [hb', toOk_ok]⟩

theorem mapM_error_iff {α β ε} (f : α → Except ε β) (l : List α) :
    (∃ e, l.mapM f = .error e) ↔ ∃ a ∈ l, ∃ e, f a = .error e := by
  induction l with
  | nil => exact ⟨fun ⟨_, h⟩ => (nomatch h), fun ⟨_, h, _⟩ => (nomatch h)⟩
  | cons a l ih =>
    simp only [List.mapM_cons, List.mem_cons, exists_eq_or_imp, ← ih]
    -- the first failure is at `a`, or `a` is fine and it is in the tail
    cases f a with
    | error e => exact ⟨fun _ => .inl ⟨e, rfl⟩, fun _ => ⟨e, rfl⟩⟩
    | ok b =>
      cases l.mapM f with
      | error e => exact ⟨fun _ => .inr ⟨e, rfl⟩, fun _ => ⟨e, rfl⟩⟩
      | ok bs =>
        constructor
        · rintro ⟨_, h⟩
          cases h
        · rintro (⟨_, h⟩ | ⟨_, h⟩)
          · cases h
          · cases h

theorem mapM_congr {α β ε} (f g : α → Except ε β) (l : List α) (h : ∀ a ∈ l, f a = g a) :
    l.mapM f = l.mapM g := by
  induction l with
  | nil => rfl
  | cons a l ih =>
    rw [List.mapM_cons, List.mapM_cons, h a List.mem_cons_self, ih fun x hx => h x (List.mem_cons_of_mem _ hx)]

theorem mapM_map_comm {α β γ ε} (f : α → Except ε β) (g : β → γ) : ∀ (l : List α),
    (l.mapM f).map (List.map g) = l.mapM (fun x => (f x).map g)
  | [] => rfl
  | a :: l => by
    simp only [List.mapM_cons, ← mapM_map_comm f g l]
    cases f a <;> cases l.mapM f <;> rfl

theorem mapM_map_congr {α β γ ε} (f f' : α → Except ε β) (g : β → γ) (l : List α)
    (h : ∀ x ∈ l, (f x).map g = (f' x).map g) :
    (l.mapM f).map (List.map g) = (l.mapM f').map (List.map g) := by
  rw [mapM_map_comm, mapM_map_comm]
  exact mapM_congr _ _ l h

end Coma.Proofs.Exc
