import Props.Defs
import Proofs.SortLemmas
import Proofs.Labels
import Proofs.ExceptLemmas
import Proofs.Cmap
/-
  C02: what the fields of labels, rows, fragments and written lines are.  `alignerAlign_ok_iff` is the one reading of
  `alignerAlign`; `unalignedFragments_spec` is the one walk through the branches of `unalignedFragments` (result
  predicate `FragSpec`), from which the shape, the ids and the labels of the fragments follow.
-/
namespace Coma.Proofs
open Coma.Spec

theorem trim_labels_frame (m : OMap) (p0 : Int) (ps : List Int) (hp : m.positions = p0 :: ps) (rev : Bool) (l : Lbl) :
    l ∈ m.trim.labels rev ↔ ∃ k : Nat, ∃ p, m.positions[k]? = some p ∧ l.site = (k : Int) + 1 ∧
      l.pos = (if rev then lastD p0 m.positions - p else p - p0) := by
  obtain ⟨hpos, -, -, hlen, -, -⟩ := trim_spec m p0 ps hp
  have hsh : m.trim.shift = 0 := by
    unfold OMap.trim
    rw [hp]
  rw [(labels_spec m.trim rev).2 l, hpos, hlen, hsh]
  -- label `k` of the trimmed map is `p - p0` for label `k` of the map, `p`
  simp only [List.getElem?_map, Option.map_eq_some_iff]
  constructor
  · rintro ⟨k, _, ⟨p, hk, rfl⟩, hs, hl⟩
    refine ⟨k, p, hk, by omega, ?_⟩
    cases rev <;> simp at hl ⊢ <;> omega
  · rintro ⟨k, p, hk, hs, hl⟩
    refine ⟨k, p - p0, ⟨p, hk, rfl⟩, by omega, ?_⟩
    cases rev <;> simp at hl ⊢ <;> omega

theorem row_create_fields (P : Params) (segs : List Seg) (qid rid ql rl : Int) (rev : Bool)
    (first last : Pr)
    (hf : (segs.flatMap Seg.pairs).head? = some first) (hl : (segs.flatMap Seg.pairs).getLast? = some last)
    (ha : Ascending ((segs.flatMap Seg.pairs).map (fun p => p.r.pos))) :
    let row := Row.create P segs qid rid ql rl rev
    row.rStart = first.r.pos ∧ row.rEnd = last.r.pos ∧
    row.qStart = (if rev then last else first).q.pos ∧ row.qEnd = (if rev then first else last).q.pos ∧
    row.queryId = qid ∧ row.referenceId = rid ∧ row.queryLength = ql ∧ row.referenceLength = rl ∧ row.rev = rev ∧
    row.alignedRest = false ∧ row.segments = segs ∧
    row.confidence = sumInts (segs.map (fun s => sumScores P s.items)) := by
  intro row
  -- the pairs are sorted already, so the first and last pair that `Row.create` finds are `first` and `last`
  have hfirst : (isort (fun (p : Pr) => p.r.pos) (segs.flatMap Seg.pairs)).head?.getD nullPr = first := by
    rw [isort_of_sorted _ _ ha, hf]; rfl
  have hlast : (isort (fun (p : Pr) => p.r.pos) (segs.flatMap Seg.pairs)).getLast?.getD nullPr = last := by
    rw [isort_of_sorted _ _ ha, hl]; rfl
  refine ⟨congrArg (·.r.pos) hfirst, congrArg (·.r.pos) hlast, ?_, ?_, rfl, rfl, rfl, rfl, rfl, rfl, rfl, rfl⟩
  · show (if !rev then _ else _ : Pr).q.pos = _
    rw [hfirst, hlast]; cases rev <;> rfl
  · show (if !rev then _ else _ : Pr).q.pos = _
    rw [hfirst, hlast]; cases rev <;> rfl

theorem row_start_end_order (P : Params) (segs : List Seg) (qid rid ql rl : Int) (rev : Bool)
    (ha : Ascending ((segs.flatMap Seg.pairs).map (fun p => p.r.pos)))
    (hq : Ascending ((segs.flatMap Seg.pairs).map (fun p => p.q.pos))) :
    let row := Row.create P segs qid rid ql rl rev
    row.rStart ≤ row.rEnd ∧ (rev = false → row.qStart ≤ row.qEnd) ∧ (rev = true → row.qEnd ≤ row.qStart) := by
  intro row
  cases h : segs.flatMap Seg.pairs with
  | nil =>
    cases rev <;> simp [row, Row.create, h, isort]
  | cons a t =>
    have hf : (segs.flatMap Seg.pairs).head? = some a := by rw [h]; rfl
    have hl : (segs.flatMap Seg.pairs).getLast? = some ((a :: t).getLast (by simp)) := by
      rw [h]; exact List.getLast?_eq_some_getLast (by simp)
    obtain ⟨h1, h2, h3, h4, -⟩ := row_create_fields P segs qid rid ql rl rev a _ hf hl ha
    have hr' := sorted_tail_le (fun (p : Pr) => p.r.pos) a t (by rw [← h]; exact ha) _ (List.getLast_mem (by simp))
    have hq' := sorted_tail_le (fun (p : Pr) => p.q.pos) a t (by rw [← h]; exact hq) _ (List.getLast_mem (by simp))
    refine ⟨?_, ?_, ?_⟩
    · show row.rStart ≤ row.rEnd
      rw [h1, h2]; exact hr'
    · intro hrev; subst hrev
      show row.qStart ≤ row.qEnd
      rw [h3, h4]; exact hq'
    · intro hrev; subst hrev
      show row.qEnd ≤ row.qStart
      rw [h3, h4]; exact hq'

theorem alignerAlign_ok_iff {P : Params} {C : ChainCfg} {ref qry : OMap} {peaks : List Int} {rev : Bool} {it : Int}
    {row : Row} : alignerAlign P C ref qry peaks rev it = .ok row ↔
      ∃ segs res, segmentsOfPeaks P ref qry rev it peaks = .ok segs ∧ resolveConflicts P C segs = .ok res ∧
        row = Row.create P res qry.id ref.id qry.length ref.length rev := by
  unfold alignerAlign
  rw [Exc.bind_ok]
  refine exists_congr fun segs => ?_
  rw [Exc.bind_pure_eq_map, Exc.map_ok, exists_and_left]

theorem alignerAlign_fields (P : Params) (C : ChainCfg) (ref qry : OMap) (peaks : List Int) (rev : Bool) (it : Int)
    (row : Row) (h : alignerAlign P C ref qry peaks rev it = .ok row) :
    row.queryId = qry.id ∧ row.referenceId = ref.id ∧ row.queryLength = qry.length ∧
    row.referenceLength = ref.length ∧ row.rev = rev ∧ row.alignedRest = false ∧
    row.confidence = sumInts (row.segments.map (fun s => sumScores P s.items)) := by
  obtain ⟨_, res, _, _, rfl⟩ := alignerAlign_ok_iff.mp h
  exact ⟨rfl, rfl, rfl, rfl, rfl, rfl, rfl⟩

namespace Fields

/-- the two candidate fragments of `unalignedFragments`: a prefix slice of the query's labels (numbering
    unchanged) and a suffix slice (numbering shifted by what was cut off) -/
def fragTo (row : Row) (query : OMap) (j : Int) : OMap :=
  { id := row.queryId, length := row.queryLength, positions := pySliceTo query.positions j, shift := 0 }

def fragFrom (row : Row) (query : OMap) (i : Int) : OMap :=
  { id := row.queryId, length := row.queryLength, positions := pySliceFrom query.positions i,
    shift := (query.positions.length : Int) - ((pySliceFrom query.positions i).length : Int) }

/-- what a run of `unalignedFragments` on a found query can be -/
def FragSpec (row : Row) (query : OMap) : Except Err (List OMap) → Prop
  | .ok frags => ∃ j i, frags.Sublist [fragTo row query j, fragFrom row query i]
  | .error _ => row.rev = false ∧
      (indexOf? row.qStart query.positions = none ∨ indexOf? row.qEnd query.positions = none)

/-- the tree of conditionals is followed by core's `iteInduction` as a term, so that no hypothesis about the whole
    body has to be split -/
theorem unalignedFragments_spec (row : Row) (queries : List OMap) (query : OMap)
    (hq : queries.find? (fun m => m.id = row.queryId) = some query) :
    FragSpec row query (unalignedFragments row queries) := by
  unfold unalignedFragments
  simp only [hq]
  refine iteInduction (fun _ => ⟨0, 0, List.nil_sublist _⟩) fun _ => iteInduction (fun _ => iteInduction (fun hr => ?_)
    fun _ => ⟨_, 0, .cons_cons _ (List.nil_sublist _)⟩) fun _ => ?_
  · -- a record that starts or ends at coordinate 0, '+' strand
    split
    · exact ⟨by simpa using hr, .inr ‹_›⟩
    · exact iteInduction (fun _ => ⟨0, 0, List.nil_sublist _⟩) fun _ => ⟨0, _, .cons _ (.refl _)⟩
  · -- both slices, each kept when it has at least 7 labels
    have keep : ∀ j i, FragSpec row query
        (if (pySliceTo query.positions j).length ≥ 7 ∧ (pySliceFrom query.positions i).length ≥ 7 then
          .ok [fragTo row query j, fragFrom row query i]
        else if (pySliceTo query.positions j).length ≥ 7 then .ok [fragTo row query j]
        else if (pySliceFrom query.positions i).length ≥ 7 then .ok [fragFrom row query i] else .ok []) :=
      fun j i => iteInduction (fun _ => ⟨j, i, .refl _⟩) fun _ =>
        iteInduction (fun _ => ⟨j, i, .cons_cons _ (List.nil_sublist _)⟩) fun _ =>
          iteInduction (fun _ => ⟨j, i, .cons _ (.refl _)⟩) fun _ => ⟨j, i, List.nil_sublist _⟩
    cases hrv : row.rev
    · cases h1 : indexOf? row.qStart query.positions with
      | none => exact ⟨hrv, .inl h1⟩
      | some a =>
        cases h2 : indexOf? row.qEnd query.positions with
        | none => exact ⟨hrv, .inr h2⟩
        | some b => exact keep _ _
    · exact keep _ _

theorem unalignedFragments_shape (row : Row) (queries : List OMap) (query : OMap) (frags : List OMap)
    (hq : queries.find? (fun m => m.id = row.queryId) = some query)
    (h : unalignedFragments row queries = .ok frags) :
    ∃ j i, ∀ f ∈ frags, f = fragTo row query j ∨ f = fragFrom row query i := by
  have := unalignedFragments_spec row queries query hq
  rw [h] at this
  obtain ⟨j, i, hs⟩ := this
  refine ⟨j, i, fun f hf => ?_⟩
  have := hs.subset hf
  simpa only [List.mem_cons, List.not_mem_nil, or_false] using this

theorem unalignedFragments_congr (row : Row) (qs qs' : List OMap)
    (h : qs.find? (fun m => decide (m.id = row.queryId)) = qs'.find? (fun m => decide (m.id = row.queryId))) :
    unalignedFragments row qs = unalignedFragments row qs' := by
  unfold unalignedFragments
  rw [h]

theorem unalignedFragments_id (row : Row) (queries : List OMap) (frags : List OMap)
    (h : unalignedFragments row queries = .ok frags) : ∀ f ∈ frags, f.id = row.queryId := by
  cases hq : queries.find? (fun m => m.id = row.queryId) with
  | some q =>
    obtain ⟨j, i, hs⟩ := unalignedFragments_shape row queries q frags hq h
    intro f hf
    rcases hs f hf with rfl | rfl <;> rfl
  | none =>
    -- without the query the only successful result is the early `[]`
    unfold unalignedFragments at h
    simp only [hq] at h
    split at h <;> cases h
    exact fun f hf => nomatch hf

theorem frag_labels (row : Row) (query : OMap) (hlen : query.length = row.queryLength) (hshift : query.shift = 0)
    (j i : Int) (f : OMap) (hf : f = fragTo row query j ∨ f = fragFrom row query i) :
    ∀ rev, ∀ l ∈ f.labels rev, l ∈ query.labels rev := by
  intro rev l hl
  obtain ⟨k, p, h1, rfl⟩ := (mem_labels ..).1 hl
  rw [mem_labels]
  rcases hf with rfl | rfl
  · obtain ⟨t, ht⟩ := pySliceTo_eq_take query.positions j
    simp only [fragTo, ht, List.getElem?_take] at h1
    split at h1
    · exact ⟨k, p, h1, by simp only [labelAt, fragTo, hshift, hlen]⟩
    · cases h1
  · -- label `k` of the suffix is label `d + k` of the query: the shift is the number of labels cut off
    obtain ⟨d, hd⟩ := pySliceFrom_eq_drop query.positions i
    simp only [fragFrom, hd, List.getElem?_drop] at h1
    have hk : d + k < query.positions.length := (List.getElem?_eq_some_iff.mp h1).1
    refine ⟨d + k, p, h1, ?_⟩
    simp only [labelAt, fragFrom, hd, List.length_drop, hshift, hlen]
    exact congrArg (Lbl.mk · _) (by omega)

theorem _root_.Coma.Proofs.fragment_labels_subset (row : Row) (queries : List OMap) (query : OMap) (frags : List OMap)
    (hq : queries.find? (fun m => m.id = row.queryId) = some query)
    (hlen : query.length = row.queryLength) (hshift : query.shift = 0)
    (h : unalignedFragments row queries = .ok frags) :
    ∀ f ∈ frags, f.id = row.queryId ∧ f.length = row.queryLength ∧
      ∀ rev, ∀ l ∈ f.labels rev, l ∈ query.labels rev := by
  obtain ⟨j, i, hs⟩ := unalignedFragments_shape row queries query frags hq h
  intro f hf
  refine ⟨?_, ?_, frag_labels row query hlen hshift j i f (hs f hf)⟩
  · rcases hs f hf with rfl | rfl <;> rfl
  · rcases hs f hf with rfl | rfl <;> rfl

def XRowOf (cfg : Cfg) (x : XRow) (r : Row) : Prop :=
  x.qid = r.queryId ∧ x.rid = r.referenceId ∧ x.qStart = r.qStart ∧ x.qEnd = r.qEnd ∧
    x.rStart = r.rStart ∧ x.rEnd = r.rEnd ∧ x.rev = r.rev ∧ x.qLen = r.queryLength ∧ x.rLen = r.referenceLength ∧
    x.alignedRest = r.alignedRest ∧ x.pairs = r.pairs.map (fun p => (p.r.site, p.q.site)) ∧
    x.conf100 = (r.confidence * 100) / (cfg.den : Int)

theorem toXRow_spec (cfg : Cfg) (cigar : List Pr → Except Err String) (i : Nat) (r : Row) (x : XRow)
    (h : r.toXRow cfg cigar i = .ok x) : x.entryId = i ∧ XRowOf cfg x r := by
  obtain ⟨s, -, h⟩ := (Exc.bind_ok ..).1 h
  cases h
  exact ⟨rfl, rfl, rfl, rfl, rfl, rfl, rfl, rfl, rfl, rfl, rfl, rfl, rfl⟩

theorem renderRowsFrom_spec (cfg : Cfg) (rows : List Row) : ∀ (i : Nat) (lines : List String),
    renderRowsFrom cfg i rows = .ok lines →
    lines.length = rows.length ∧
    ∀ k, k < rows.length → ∃ x : XRow, lines[k]? = some x.line ∧ x.entryId = i + k ∧
      ∃ r, rows[k]? = some r ∧ XRowOf cfg x r := by
  induction rows with
  | nil =>
    intro i lines h
    cases h
    exact ⟨rfl, fun k hk => absurd hk (Nat.not_lt_zero k)⟩
  | cons r rs ih =>
    intro i lines h
    rw [renderRowsFrom] at h
    obtain ⟨x, hx, h⟩ := (Exc.bind_ok ..).1 h
    obtain ⟨tl, ht, h⟩ := (Exc.bind_ok ..).1 h
    cases h
    obtain ⟨hlen, hk⟩ := ih (i + 1) tl ht
    obtain ⟨hid, hxr⟩ := toXRow_spec cfg _ i r x hx
    refine ⟨congrArg (· + 1) hlen, fun k hklt => ?_⟩
    cases k with
    | zero => exact ⟨x, rfl, hid, r, rfl, hxr⟩
    | succ k =>
      obtain ⟨x', h1, h2, r', h3, h4⟩ := hk k (Nat.lt_of_succ_lt_succ hklt)
      exact ⟨x', h1, by omega, r', h3, h4⟩

end Fields

end Coma.Proofs
