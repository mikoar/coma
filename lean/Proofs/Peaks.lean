import Coma.Peaks
import Proofs.ExceptLemmas
import Proofs.Vector
import Proofs.Corr

/- The repository's glue around the two scipy calls (`Coma/Peaks.lean`).  A `do` block that ends in `return f x` is a `map`:
   `querySequence` and `refine` are maps over `sequenceOf` and `refineCorrelation`, so when each block is ok or an error is
   one line.  The vectors handed to `correlate` are bit vectors, described at label level by `sequenceOf_spec`. -/
namespace Coma.Proofs.Peaks
open Coma.Proofs.Exc Coma.Proofs.Vector Coma.Proofs.Corr

/-- the (bin, height) peaks that pass `find_peaks` in a secondary correlation -/
def passed (c : SecCfg) (corr : List Nat) : List (Nat × Int) := findPeaksSecondary c.thr (corr.map Int.ofNat)

/-- the bp peaks `refine` makes of a secondary correlation -/
def peaksOf (c : SecCfg) (peak : Int) (corr : List Nat) : List (Int × Int) :=
  createPeaks c.keep c.res (peak - c.margin) ((passed c corr).map fun p => ((p.1 : Int), p.2))

theorem querySequence_eq_map (c : SecCfg) (q : OMap) (rev : Bool) :
    querySequence c q rev = (sequenceOf c.res c.blur q.positions 0 none).map (fun s => if rev then s.reverse else s) :=
  bind_pure_eq_map _ _

theorem refine_eq_map (c : SecCfg) (ref q : OMap) (rev : Bool) (peak : Int) :
    refine c ref q rev peak = (refineCorrelation c ref q rev peak).map (peaksOf c peak) :=
  bind_pure_eq_map _ _

theorem refine_of_corr {c : SecCfg} {ref q : OMap} {rev : Bool} {peak : Int} {corr : List Nat}
    (h : refineCorrelation c ref q rev peak = .ok corr) : refine c ref q rev peak = .ok (peaksOf c peak corr) := by
  rw [refine_eq_map, h]; rfl

theorem refineCorrelation_of_seq {c : SecCfg} {ref q : OMap} {rev : Bool} {peak : Int} {s rs : List Nat}
    (hs : sequenceOf c.res c.blur q.positions 0 none = .ok s)
    (hrs : sequenceOf c.res c.blur ref.positions (peak - c.margin) (some (peak + q.length + c.margin)) = .ok rs) :
    refineCorrelation c ref q rev peak = correlate rs (if rev then s.reverse else s) := by
  rw [refineCorrelation, querySequence_eq_map, hs, hrs]; rfl

theorem sequenceOf_ok (res blurR : Int) (positions : List Int) (start : Int) (stop? : Option Int) (v : List Nat) :
    sequenceOf res blurR positions start stop? = .ok v ↔
      ∃ v0, vectorise positions res start stop? = .ok v0 ∧ blur v0 blurR = .ok v :=
  bind_ok _ _ _

theorem sequenceOf_error (res blurR : Int) (positions : List Int) (start : Int) (stop? : Option Int) (e : Err) :
    sequenceOf res blurR positions start stop? = .error e ↔
      vectorise positions res start stop? = .error e ∨
      ∃ v0, vectorise positions res start stop? = .ok v0 ∧ blur v0 blurR = .error e :=
  bind_error _ _ _

theorem querySequence_ok (c : SecCfg) (q : OMap) (rev : Bool) (qs : List Nat) :
    querySequence c q rev = .ok qs ↔
      ∃ s, sequenceOf c.res c.blur q.positions 0 none = .ok s ∧ qs = if rev then s.reverse else s := by
  rw [querySequence_eq_map, map_ok]

theorem querySequence_error (c : SecCfg) (q : OMap) (rev : Bool) (e : Err) :
    querySequence c q rev = .error e ↔ sequenceOf c.res c.blur q.positions 0 none = .error e := by
  rw [querySequence_eq_map, map_error]

theorem refineCorrelation_ok (c : SecCfg) (ref q : OMap) (rev : Bool) (peak : Int) (corr : List Nat) :
    refineCorrelation c ref q rev peak = .ok corr ↔
      ∃ qs rs, querySequence c q rev = .ok qs ∧
        sequenceOf c.res c.blur ref.positions (peak - c.margin) (some (peak + q.length + c.margin)) = .ok rs ∧
        correlate rs qs = .ok corr := by
  simp only [refineCorrelation, bind_ok, exists_and_left]

theorem refineCorrelation_error (c : SecCfg) (ref q : OMap) (rev : Bool) (peak : Int) (e : Err) :
    refineCorrelation c ref q rev peak = .error e ↔
      querySequence c q rev = .error e ∨
      ∃ qs, querySequence c q rev = .ok qs ∧
        (sequenceOf c.res c.blur ref.positions (peak - c.margin) (some (peak + q.length + c.margin)) = .error e ∨
         ∃ rs, sequenceOf c.res c.blur ref.positions (peak - c.margin) (some (peak + q.length + c.margin)) = .ok rs ∧
          correlate rs qs = .error e) := by
  simp only [refineCorrelation, bind_error]

theorem refine_ok (c : SecCfg) (ref q : OMap) (rev : Bool) (peak : Int) (pk : List (Int × Int)) :
    refine c ref q rev peak = .ok pk ↔
      ∃ corr, refineCorrelation c ref q rev peak = .ok corr ∧ pk = peaksOf c peak corr := by
  rw [refine_eq_map, map_ok]

theorem refine_error (c : SecCfg) (ref q : OMap) (rev : Bool) (peak : Int) (e : Err) :
    refine c ref q rev peak = .error e ↔ refineCorrelation c ref q rev peak = .error e := by
  rw [refine_eq_map, map_error]

theorem blur_bits (v w : List Nat) (radius : Int) (h : blur v radius = .ok w) : Bits w := by
  obtain ⟨hlen, hb⟩ := blur_spec v w radius h
  intro x hx
  obtain ⟨i, hi, rfl⟩ := List.mem_iff_getElem.mp hx
  have := (hb i (by omega)).1
  simp only [List.getD_eq_getElem?_getD, List.getElem?_eq_getElem hi, Option.getD_some] at this
  omega

theorem sequenceOf_bits (res blurR : Int) (positions : List Int) (start : Int) (stop? : Option Int) (v : List Nat)
    (h : sequenceOf res blurR positions start stop? = .ok v) : Bits v := by
  obtain ⟨v0, _, h2⟩ := (sequenceOf_ok _ _ _ _ _ _).mp h
  exact blur_bits v0 v blurR h2

theorem querySequence_bits (c : SecCfg) (q : OMap) (rev : Bool) (qs : List Nat)
    (h : querySequence c q rev = .ok qs) : Bits qs := by
  obtain ⟨s, h1, rfl⟩ := (querySequence_ok _ _ _ _).mp h
  have := sequenceOf_bits _ _ _ _ _ _ h1
  cases rev
  · exact this
  · exact bits_reverse this

theorem sequenceOf_spec (res blurR : Int) (ps : List Int) (start : Int) (stop? : Option Int) (v : List Nat)
    (hs : Coma.Spec.Ascending ps) (h : sequenceOf res blurR ps start stop? = .ok v) :
    1 ≤ res ∧ v.length = (vecGo res (stopEff' ps stop?) start ps).length ∧
    ∀ y, y < v.length → (v.getD y 0 = 1 ∨ v.getD y 0 = 0) ∧
      (v.getD y 0 = 1 ↔ ∃ p ∈ ps, start ≤ p ∧ ((p - start) / res).toNat < v.length ∧
          (y : Int) ≤ ((p - start) / res).toNat + blurR ∧ (((p - start) / res).toNat : Int) ≤ y + blurR) := by
  obtain ⟨v0, h1, h2⟩ := (sequenceOf_ok _ _ _ _ _ _).mp h
  obtain ⟨hres, -, hv0⟩ := (vectorise_ok_iff ps res start stop? v0).mp h1
  have hbits := vectorise_bits ps res start stop? v0 hs h1
  obtain ⟨hlen, hb⟩ := blur_spec v0 v blurR h2
  refine ⟨hres, by rw [hlen, ← hv0], fun y hy => ?_⟩
  rw [hlen] at hy ⊢
  obtain ⟨hb1, hb2⟩ := hb y hy
  refine ⟨hb1, hb2.trans ⟨?_, ?_⟩⟩
  · rintro ⟨j, hj, hne, hj1, hj2⟩
    obtain ⟨hj01, hjiff⟩ := hbits j hj
    obtain ⟨p, hp, hp1, hp2⟩ := hjiff.mp (by omega)
    have hw : start ≤ p := by have := Int.mul_nonneg (show (0 : Int) ≤ j by omega) (show 0 ≤ res by omega); omega
    have e := (bin_iff start res p j hres hw).mpr ⟨hp1, hp2⟩
    exact ⟨p, hp, hw, by omega, by omega, by omega⟩
  · rintro ⟨p, hp, hp0, hp1, hp2, hp3⟩
    obtain ⟨b1, b2⟩ := bin_spec start res p hres hp0
    have hone := (hbits _ hp1).2.mpr ⟨p, hp, b1, b2⟩
    exact ⟨_, hp1, by omega, by omega, by omega⟩

theorem sequenceOf_exists (res blurR : Int) (positions : List Int) (start : Int) (stop? : Option Int)
    (hres : 1 ≤ res) (hb : 0 ≤ blurR) (hp : positions ≠ []) :
    ∃ v, sequenceOf res blurR positions start stop? = .ok v := by
  obtain ⟨v0, h0⟩ := (vectorise_ok positions res start stop?).mpr ⟨hres, Or.inl hp⟩
  obtain ⟨w, hw⟩ := blur_exists v0 blurR hb
  exact ⟨w, (sequenceOf_ok _ _ _ _ _ _).mpr ⟨v0, h0, hw⟩⟩

theorem sequenceOf_ne_nil (res blurR : Int) (positions : List Int) (start : Int) (stop? : Option Int) (v : List Nat)
    (hres : 1 ≤ res) (h : sequenceOf res blurR positions start stop? = .ok v) :
    v ≠ [] ↔ ∃ p ∈ positions, start ≤ p := by
  obtain ⟨v0, h1, h2⟩ := (sequenceOf_ok _ _ _ _ _ _).mp h
  obtain ⟨-, -, rfl⟩ := (vectorise_ok_iff positions res start stop? v0).mp h1
  rw [← vecGo_ne_nil res (stopEff' positions stop?) hres positions start,
    ← List.length_pos_iff, ← List.length_pos_iff, (blur_spec _ v blurR h2).1]

theorem correlate_le (rs qs corr : List Nat) (hr : Bits rs) (h : correlate rs qs = .ok corr) :
    ∀ y ∈ corr, y ≤ sumNat qs := by
  unfold correlate at h
  split at h
  · cases h
  · split at h
    · cases h
      intro y hy
      exact corr_le_sum rs qs hr y hy
    · cases h
      intro y hy
      obtain ⟨k, hk⟩ := List.mem_iff_getElem?.1 (List.mem_reverse.mp hy)
      rw [(corrValid_lag hk).2, dot_comm]
      exact Nat.le_trans (dot_le_sum _ _ hr) (sumNat_drop_le k qs)

theorem correlate_ok_iff (rs qs : List Nat) : (∃ corr, correlate rs qs = .ok corr) ↔ rs ≠ [] ∧ qs ≠ [] := by
  unfold correlate
  cases rs <;> cases qs <;> simp
  all_goals split <;> simp

theorem correlate_valid (a b : List Nat) (hb : b ≠ []) (h : b.length ≤ a.length) :
    correlate a b = .ok (corrValid a b) := by
  have ha : a ≠ [] := by
    intro ha
    rw [ha] at h
    exact hb (List.length_eq_zero_iff.mp (Nat.le_zero.mp h))
  unfold correlate
  rw [if_neg (by simp [ha, hb]), if_pos h]

theorem correlate_error (rs qs : List Nat) (e : Err) (h : correlate rs qs = .error e) : e = .indexError := by
  unfold correlate at h
  split at h
  · cases h; rfl
  · split at h <;> cases h

end Coma.Proofs.Peaks

namespace Coma.Proofs

set_option linter.unusedVariables false in  -- `hs` is part of the statement; the proof does not need it
theorem sequenceOf_nonempty_iff (res blurR : Int) (positions : List Int) (start : Int) (stop? : Option Int) (v : List Nat)
    (hres : 1 ≤ res) (hs : Coma.Spec.Ascending positions) (h : sequenceOf res blurR positions start stop? = .ok v) :
    v ≠ [] ↔ ∃ p ∈ positions, start ≤ p :=
  Peaks.sequenceOf_ne_nil res blurR positions start stop? v hres h

theorem refine_sound (c : SecCfg) (ref q : OMap) (rev : Bool) (peak : Int) (pk : List (Int × Int))
    (h : refine c ref q rev peak = .ok pk) :
    ∃ corr, refineCorrelation c ref q rev peak = .ok corr ∧
      ∀ e ∈ pk, ∃ k : Nat, (k, e.2) ∈ Peaks.passed c corr ∧ e.1 = toBp (k : Int) c.res (peak - c.margin) := by
  obtain ⟨corr, hc, rfl⟩ := (Peaks.refine_ok c ref q rev peak pk).mp h
  refine ⟨corr, hc, ?_⟩
  intro e he
  unfold Peaks.peaksOf createPeaks at he
  simp only [List.mem_map] at he
  obtain ⟨p, hp, rfl⟩ := he
  have hp' : p ∈ (Peaks.passed c corr).map fun p => ((p.1 : Int), p.2) := by
    split at hp
    · exact selectPeaks_subset _ _ _ _ hp
    · exact hp
  obtain ⟨⟨k, hgt⟩, hk, rfl⟩ := List.mem_map.mp hp'
  exact ⟨k, hk, rfl⟩

theorem refine_top (c : SecCfg) (ref q : OMap) (rev : Bool) (peak : Int) (corr : List Nat)
    (hc : refineCorrelation c ref q rev peak = .ok corr)
    (hn : c.keep < ((Peaks.passed c corr).length : Int)) :
    ∃ kept rest : List (Nat × Int),
      refine c ref q rev peak = .ok (kept.map fun p => (toBp (p.1 : Int) c.res (peak - c.margin), p.2)) ∧
      kept.length = c.keep.toNat ∧ (kept ++ rest).Perm (Peaks.passed c corr) ∧
      ∀ a ∈ kept, ∀ b ∈ rest, b.2 ≤ a.2 := by
  obtain ⟨hlen, _, rest, hperm, hle⟩ := selectPeaks_spec c.keep.toNat (fun (p : Nat × Int) => p.2) (Peaks.passed c corr)
  refine ⟨selectPeaks c.keep.toNat (fun (p : Nat × Int) => p.2) (Peaks.passed c corr), rest, ?_, ?_, hperm, hle⟩
  · refine (Peaks.refine_ok c ref q rev peak _).mpr ⟨corr, hc, ?_⟩
    unfold Peaks.peaksOf createPeaks
    simp only [List.length_map]
    rw [if_pos hn, selectPeaks_map, List.map_map]
    rfl
  · rw [hlen]; omega

theorem refine_few (c : SecCfg) (ref q : OMap) (rev : Bool) (peak : Int) (corr : List Nat)
    (hc : refineCorrelation c ref q rev peak = .ok corr) (hn : ¬ c.keep < ((Peaks.passed c corr).length : Int)) :
    refine c ref q rev peak =
      .ok ((Peaks.passed c corr).map fun p => (toBp (p.1 : Int) c.res (peak - c.margin), p.2)) := by
  refine (Peaks.refine_ok c ref q rev peak _).mpr ⟨corr, hc, ?_⟩
  unfold Peaks.peaksOf createPeaks
  simp only [List.length_map]
  rw [if_neg hn, List.map_map]
  rfl

theorem refineCorrelation_isOk_iff (c : SecCfg) (ref q : OMap) (rev : Bool) (peak : Int) (hres : 1 ≤ c.res) (hb : 0 ≤ c.blur)
    (hq : ∃ p ∈ q.positions, 0 ≤ p) (hr : ref.positions ≠ []) :
    (∃ corr, refineCorrelation c ref q rev peak = .ok corr) ↔ ∃ p ∈ ref.positions, peak - c.margin ≤ p := by
  obtain ⟨s, hs⟩ := Peaks.sequenceOf_exists c.res c.blur q.positions 0 none hres hb
    (by obtain ⟨p, hp, _⟩ := hq; exact List.ne_nil_of_mem hp)
  obtain ⟨rs, hrs⟩ := Peaks.sequenceOf_exists c.res c.blur ref.positions (peak - c.margin)
    (some (peak + q.length + c.margin)) hres hb hr
  have hsne : s ≠ [] := (Peaks.sequenceOf_ne_nil _ _ _ _ _ s hres hs).mpr hq
  rw [Peaks.refineCorrelation_of_seq hs hrs, Peaks.correlate_ok_iff, ← Peaks.sequenceOf_ne_nil _ _ _ _ _ rs hres hrs]
  exact and_iff_left (by cases rev <;> simpa using hsne)

theorem refineCorrelation_le (c : SecCfg) (ref q : OMap) (rev : Bool) (peak : Int) (corr qs : List Nat)
    (hc : refineCorrelation c ref q rev peak = .ok corr) (hq : querySequence c q rev = .ok qs) :
    ∀ y ∈ corr, y ≤ sumNat qs := by
  obtain ⟨qs', rs, h1, h2, h3⟩ := (Peaks.refineCorrelation_ok c ref q rev peak corr).mp hc
  rw [hq] at h1
  cases h1
  exact Peaks.correlate_le rs qs corr (Peaks.sequenceOf_bits _ _ _ _ _ rs h2) h3

theorem correlate_copy_max (rs qs corr : List Nat) (k : Nat) (hr : Bits rs) (hq : Bits qs)
    (hk : k + qs.length ≤ rs.length) (hc : correlate rs qs = .ok corr)
    (hcov : ∀ j, j < qs.length → qs.getD j 0 = 1 → rs.getD (k + j) 0 = 1) :
    corr[k]? = some (sumNat qs) ∧ ∀ y ∈ corr, y ≤ sumNat qs := by
  refine ⟨?_, Peaks.correlate_le rs qs corr hr hc⟩
  rw [Peaks.correlate_valid rs qs ((Peaks.correlate_ok_iff rs qs).mp ⟨corr, hc⟩).2 (by omega)] at hc
  cases hc
  refine corr_at_match rs qs hq k hk fun j hj => ?_
  by_cases hjl : j < qs.length
  · exact hcov j hjl hj
  · rw [List.getD_eq_getElem?_getD, List.getElem?_eq_none (by omega)] at hj
    simp at hj

end Coma.Proofs
