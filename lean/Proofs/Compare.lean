import Props.Defs
import Proofs.SortLemmas
/-
  C19: the alignment comparison.  `compareSets` is three blocks of rows (`bothRows`, `onlyRows` twice) and four counts
  over them (`compareSets_eq`), read as `List.countP`: a predicate counts all or none of an `onlyRows` block, and over
  `bothRows` it counts common keys (`cnt`), which is symmetric in the two dictionaries.  The measures are quotients
  `a / b` with `0 ≤ a ≤ b`, `0 < b` in `Rat` (`ratio_bounds`).
-/

namespace Coma.Proofs
open Coma.Spec

namespace Compare

theorem ratio_bounds {a b : Rat} (ha : 0 ≤ a) (hab : a ≤ b) (hb : 0 < b) : 0 ≤ a / b ∧ a / b ≤ 1 := by
  refine ⟨Rat.mul_nonneg ha (Rat.le_of_lt (Rat.inv_pos.2 hb)), Rat.not_lt.1 fun h => ?_⟩
  rw [Rat.lt_div_iff hb, Rat.one_mul] at h
  exact Rat.not_lt.2 hab h

theorem ratio_self {b : Rat} (hb : 0 < b) : b / b = 1 := Rat.mul_inv_cancel b (Rat.ne_of_gt hb)

theorem ratio_pos {a b : Rat} (hb : 0 < b) : 0 < a / b ↔ 0 < a := by rw [Rat.lt_div_iff hb, Rat.zero_mul]

theorem filter_not_add {α} (p : α → Bool) (l : List α) :
    (l.filter p).length + (l.filter fun x => !p x).length = l.length := by
  rw [← List.countP_eq_length_filter, ← List.countP_eq_length_filter, List.length_eq_countP_add_countP p]
  simp

abbrev keys (d : List (Key × BAl)) : List Key := d.map (·.1)

theorem mem_keys_dictInsert (k : Key) (v : BAl) (d : List (Key × BAl)) (k' : Key) :
    k' ∈ keys (dictInsert k v d) ↔ k' = k ∨ k' ∈ keys d := by
  fun_induction dictInsert k v d with
  | case1 => simp
  | case2 v0 t => simp
  | case3 k0 v0 t h ih => simp [ih, or_left_comm]

theorem nodup_dictInsert (k : Key) (v : BAl) (d : List (Key × BAl)) (h : (keys d).Nodup) :
    (keys (dictInsert k v d)).Nodup := by
  fun_induction dictInsert k v d with
  | case1 => simp
  | case2 v0 t => simpa using h
  | case3 k0 v0 t hk ih =>
    simp only [keys, List.map_cons, List.nodup_cons] at h ⊢
    exact ⟨fun hm => ((mem_keys_dictInsert k v t k0).1 hm).elim hk h.1, ih h.2⟩

theorem foldl_dictInsert_spec (l : List BAl) (d : List (Key × BAl)) (hd : (keys d).Nodup) :
    (keys (l.foldl (fun d a => dictInsert a.key a d) d)).Nodup ∧
    ∀ k, k ∈ keys (l.foldl (fun d a => dictInsert a.key a d) d) ↔ (k ∈ keys d ∨ ∃ a ∈ l, a.key = k) := by
  induction l generalizing d with
  | nil => simp [hd]
  | cons a t ih =>
    obtain ⟨h1, h2⟩ := ih (dictInsert a.key a d) (nodup_dictInsert _ _ _ hd)
    refine ⟨h1, fun k => ?_⟩
    rw [List.foldl_cons, h2, mem_keys_dictInsert]
    simp only [List.mem_cons, exists_eq_or_imp, eq_comm (a := k), or_assoc, or_left_comm]

theorem toDict_spec (as : List BAl) :
    (keys (toDict as)).Nodup ∧ ∀ k, k ∈ keys (toDict as) ↔ ∃ a ∈ as, a.key = k := by
  obtain ⟨h1, h2⟩ := foldl_dictInsert_spec (isort (fun a => a.rid) (isort (fun a => a.qid) as)) [] (by simp)
  refine ⟨h1, fun k => ?_⟩
  unfold toDict
  rw [h2]
  simp [mem_isort]

theorem dictGet?_isSome (d : List (Key × BAl)) (k : Key) : (dictGet? d k).isSome = (keys d).contains k := by
  rw [Bool.eq_iff_iff]
  simp [dictGet?]

theorem dictGet?_isNone (d : List (Key × BAl)) (k : Key) : (dictGet? d k).isNone = !(keys d).contains k := by
  rw [← dictGet?_isSome]; cases dictGet? d k <;> rfl

theorem mem_of_dictGet? (d : List (Key × BAl)) (k : Key) (v : BAl) (h : dictGet? d k = some v) : (k, v) ∈ d := by
  obtain ⟨⟨k0, v0⟩, hf, rfl⟩ := Option.map_eq_some_iff.1 h
  have hk : k0 = k := by simpa using List.find?_some hf
  exact hk ▸ List.mem_of_find?_eq_some hf

theorem dictGet?_of_mem (d : List (Key × BAl)) (hd : (keys d).Nodup) (k : Key) (v : BAl) (h : (k, v) ∈ d) :
    dictGet? d k = some v := by
  have hs : (dictGet? d k).isSome = true := by
    rw [dictGet?_isSome, List.contains_iff_mem]; exact List.mem_map.2 ⟨_, h, rfl⟩
  obtain ⟨v', hv⟩ := Option.isSome_iff_exists.1 hs
  cases inj_of_nodup_map _ hd _ (mem_of_dictGet? d k v' hv) _ h rfl
  exact hv

def bothRows (flag : Bool) (M : List BPair → List BPair → Nat) (d1 d2 : List (Key × BAl)) : List RowCmp :=
  d1.filterMap fun (k, a1) => (dictGet? d2 k).map fun a2 => compareRow flag M a1 a2

def onlyRows (t : RowType) (d1 d2 : List (Key × BAl)) : List RowCmp :=
  (d1.filter fun (k, _) => (dictGet? d2 k).isNone).map fun (k, _) =>
    ({ type := t, key := k, diff1 := [], diff2 := [], cov1 := 0, cov2 := 0, ident := 0 } : RowCmp)

def allRows (flag : Bool) (M : List BPair → List BPair → Nat) (as1 as2 : List BAl) : List RowCmp :=
  bothRows flag M (toDict as1) (toDict as2) ++ onlyRows .firstOnly (toDict as1) (toDict as2) ++
    onlyRows .secondOnly (toDict as2) (toDict as1)

theorem compareSets_eq (flag M as1 as2) :
    compareSets flag M as1 as2 =
      { overlapping := (allRows flag M as1 as2).countP RowCmp.overlapping,
        nonOverlapping := (allRows flag M as1 as2).countP fun r => r.type = .both && !r.overlapping,
        firstOnly := (allRows flag M as1 as2).countP fun r => r.type = .firstOnly,
        secondOnly := (allRows flag M as1 as2).countP fun r => r.type = .secondOnly,
        rows := allRows flag M as1 as2 } := by
  simp only [List.countP_eq_length_filter]; rfl

theorem mem_bothRows {flag M d1 d2 r} (h : r ∈ bothRows flag M d1 d2) :
    ∃ k a1 a2, (k, a1) ∈ d1 ∧ dictGet? d2 k = some a2 ∧ r = compareRow flag M a1 a2 := by
  obtain ⟨⟨k, a1⟩, hm, h⟩ := List.mem_filterMap.1 h
  obtain ⟨a2, hg, rfl⟩ := Option.map_eq_some_iff.1 h
  exact ⟨k, a1, a2, hm, hg, rfl⟩

theorem mem_onlyRows {t d1 d2 r} (h : r ∈ onlyRows t d1 d2) : ∃ k, r = ⟨t, k, [], [], 0, 0, 0⟩ := by
  obtain ⟨⟨k, _⟩, _, rfl⟩ := List.mem_map.1 h
  exact ⟨k, rfl⟩

theorem countP_bothRows {flag M d1 d2} (p q : RowCmp → Bool) (h : ∀ r, r.type = .both → p r = q r) :
    (bothRows flag M d1 d2).countP p = (bothRows flag M d1 d2).countP q := by
  apply List.countP_congr
  intro r hr
  obtain ⟨_, _, _, _, _, rfl⟩ := mem_bothRows hr
  rw [h _ rfl]

theorem countP_onlyRows (t) {d1 d2} (p : RowCmp → Bool) (b : Bool) (h : ∀ k, p ⟨t, k, [], [], 0, 0, 0⟩ = b) :
    (onlyRows t d1 d2).countP p = if b then (onlyRows t d1 d2).length else 0 := by
  have hp : ∀ r ∈ onlyRows t d1 d2, p r = b := by
    intro r hr
    obtain ⟨k, rfl⟩ := mem_onlyRows hr
    exact h k
  cases b
  · simpa [List.countP_eq_zero] using hp
  · simpa [List.countP_eq_length] using hp

theorem onlyRows_length (t d1 d2) : (onlyRows t d1 d2).length = ((keys d1).filter fun k => !(keys d2).contains k).length := by
  simp only [onlyRows, List.length_map, keys, ← List.countP_eq_length_filter, List.countP_map]
  exact List.countP_congr fun ⟨k, a⟩ _ => by simp [dictGet?_isNone]

theorem bothRows_length (flag M d1 d2) :
    (bothRows flag M d1 d2).length = ((keys d1).filter fun k => (keys d2).contains k).length := by
  simp only [bothRows, List.length_filterMap_eq_countP, keys, ← List.countP_eq_length_filter, List.countP_map]
  exact List.countP_congr fun ⟨k, a⟩ _ => by simp [dictGet?_isSome]

theorem counts (flag M as1 as2) :
    let B := bothRows flag M (toDict as1) (toDict as2)
    (compareSets flag M as1 as2).overlapping = (B.filter RowCmp.overlapping).length ∧
    (compareSets flag M as1 as2).nonOverlapping = (B.filter fun r => !r.overlapping).length ∧
    (compareSets flag M as1 as2).firstOnly = (onlyRows .firstOnly (toDict as1) (toDict as2)).length ∧
    (compareSets flag M as1 as2).secondOnly = (onlyRows .secondOnly (toDict as2) (toDict as1)).length := by
  simp only [compareSets_eq, allRows, List.countP_append, ← List.countP_eq_length_filter]
  refine ⟨?_, ?_, ?_, ?_⟩
  · rw [countP_onlyRows .firstOnly _ false fun _ => rfl, countP_onlyRows .secondOnly _ false fun _ => rfl]
    rfl
  · rw [countP_onlyRows .firstOnly _ false fun _ => rfl, countP_onlyRows .secondOnly _ false fun _ => rfl]
    exact countP_bothRows _ _ fun r h => by simp [h]
  · rw [countP_onlyRows .firstOnly _ true fun _ => rfl, countP_onlyRows .secondOnly _ false fun _ => rfl,
      countP_bothRows _ (fun _ => false) fun r h => by simp [h]]
    simp
  · rw [countP_onlyRows .firstOnly _ false fun _ => rfl, countP_onlyRows .secondOnly _ true fun _ => rfl,
      countP_bothRows _ (fun _ => false) fun r h => by simp [h]]
    simp

theorem dedupList_length_le (l : List BPair) : (dedupList l).length ≤ l.length := by
  induction l with
  | nil => simp [dedupList]
  | cons x xs ih =>
    unfold dedupList
    split
    · exact Nat.le_succ_of_le ih
    · exact Nat.succ_le_succ ih

theorem difference_length_le (ps other : List BPair) : (difference ps other).length ≤ ps.length :=
  Nat.le_trans (dedupList_length_le _) (List.length_filter_le _ _)

theorem coverage_bounds (ps diff : List BPair) (h : diff.length ≤ ps.length) :
    0 ≤ coverage ps diff ∧ coverage ps diff ≤ 1 := by
  unfold coverage
  split
  case isFalse => decide
  case isTrue hp =>
    have h1 : (0 : Int) ≤ ps.length - diff.length := by omega
    have h2 : (ps.length - diff.length : Int) ≤ ps.length := by omega
    exact ratio_bounds (by exact_mod_cast h1) (by exact_mod_cast h2) (by exact_mod_cast hp)

theorem identity_bounds {M} (hM : MatcherOK M) (a b : List BPair) :
    0 ≤ identity M a b ∧ identity M a b ≤ 1 := by
  unfold identity
  split
  case isTrue => decide
  case isFalse hp =>
    have h2 : 2 * M a b ≤ a.length + b.length := by have := hM.le_min a b; omega
    have h3 : 0 < a.length + b.length := by omega
    exact ratio_bounds (by exact_mod_cast Nat.zero_le _) (by exact_mod_cast h2) (by exact_mod_cast h3)

theorem compareRow_bounds (flag : Bool) {M} (hM : MatcherOK M) (a1 a2 : BAl) :
    let r := compareRow flag M a1 a2
    0 ≤ r.ident ∧ r.ident ≤ 1 ∧ 0 ≤ r.cov1 ∧ r.cov1 ≤ 1 ∧ 0 ≤ r.cov2 ∧ r.cov2 ≤ 1 :=
  ⟨(identity_bounds hM _ _).1, (identity_bounds hM _ _).2,
    (coverage_bounds _ _ (difference_length_le _ _)).1, (coverage_bounds _ _ (difference_length_le _ _)).2,
    (coverage_bounds _ _ (difference_length_le _ _)).1, (coverage_bounds _ _ (difference_length_le _ _)).2⟩

theorem onlyRows_bounds {t d1 d2 r} (h : r ∈ onlyRows t d1 d2) :
    0 ≤ r.ident ∧ r.ident ≤ 1 ∧ 0 ≤ r.cov1 ∧ r.cov1 ≤ 1 ∧ 0 ≤ r.cov2 ∧ r.cov2 ≤ 1 := by
  obtain ⟨k, rfl⟩ := mem_onlyRows h
  dsimp only
  decide

theorem groupByQ_eq (ps : List BPair) : groupByQ ps = groupAdj (fun p => p.2) ps := by
  induction ps with
  | nil => rfl
  | cons x xs ih =>
    simp only [groupByQ, groupAdj, ih]
    generalize groupAdj (fun p : BPair => p.2) xs = L
    rcases L with _ | ⟨(_ | ⟨y, g⟩), gs⟩ <;> rfl

theorem combine_self (flag : Bool) (ps : List BPair) : combine flag ps ps = ps := by
  unfold combine
  cases flag
  · rfl
  · simp only [Bool.not_true, Bool.false_eq_true, if_false]
    have : ∀ g ∈ groupByQ ps, (fun g : List BPair =>
        let kept := g.filter fun a => ps.contains a
        if kept.isEmpty then g else kept) g = id g := by
      intro g hg
      rw [groupByQ_eq] at hg
      have : g.filter (fun a => ps.contains a) = g :=
        List.filter_eq_self.2 fun x hx => by simpa using mem_of_mem_groupAdj _ hg hx
      simp only [this, id]
      split <;> rfl
    rw [List.flatMap_def, List.map_congr_left this, List.map_id, groupByQ_eq, groupAdj_flatten]

theorem difference_self (ps : List BPair) : difference ps ps = [] := by
  unfold difference
  rw [List.filter_eq_nil_iff.2 fun x hx => by simpa using hx]
  rfl

theorem coverage_nil (ps : List BPair) : coverage ps [] = 1 := by
  unfold coverage
  split
  case isFalse => rfl
  case isTrue hp => simpa [Rat.intCast_natCast] using ratio_self (b := ps.length) (by exact_mod_cast hp)

theorem identity_self {M} (hM : MatcherOK M) (a : List BPair) : identity M a a = 1 := by
  unfold identity
  split
  case isTrue => rfl
  case isFalse hp =>
    rw [hM.refl, Nat.two_mul]
    exact ratio_self (by exact_mod_cast (by omega : 0 < a.length + a.length))

theorem compareRow_self (flag : Bool) {M} (hM : MatcherOK M) (a : BAl) :
    let r := compareRow flag M a a
    r.type = .both ∧ r.ident = 1 ∧ r.cov1 = 1 ∧ r.cov2 = 1 ∧ r.diff1 = [] ∧ r.diff2 = [] := by
  simp only [compareRow, combine_self, difference_self, coverage_nil, identity_self hM, and_self]

theorem onlyRows_self (t) (d : List (Key × BAl)) : onlyRows t d d = [] := by
  unfold onlyRows
  rw [List.filter_eq_nil_iff.2 fun ⟨k, a⟩ h => by simpa [dictGet?_isNone] using ⟨a, h⟩]
  rfl

theorem identity_pos_iff (M : List BPair → List BPair → Nat) (a b : List BPair) :
    0 < identity M a b ↔ (a.length + b.length = 0 ∨ 0 < M a b) := by
  unfold identity
  split
  case isTrue h => exact ⟨fun _ => Or.inl h, fun _ => by decide⟩
  case isFalse hp =>
    rw [ratio_pos (by exact_mod_cast (by omega : 0 < a.length + b.length)), Rat.natCast_pos]
    omega

theorem compareRow_overlapping_swap (flag : Bool) {M} (hM : MatcherOK M) (a1 a2 : BAl) :
    (compareRow flag M a1 a2).overlapping = (compareRow flag M a2 a1).overlapping := by
  simp only [RowCmp.overlapping, compareRow, gt_iff_lt]
  apply decide_eq_decide.2
  rw [identity_pos_iff, identity_pos_iff, hM.symm_pos, Nat.add_comm]

/-- number of common keys whose two values satisfy `f` -/
def cnt (f : BAl → BAl → Bool) (d1 d2 : List (Key × BAl)) : Nat :=
  (keys d1).countP fun k => (dictGet? d1 k).any fun a1 => (dictGet? d2 k).any fun a2 => f a1 a2

theorem countP_bothRows_eq_cnt (flag M) (p : RowCmp → Bool) (d1 d2 : List (Key × BAl)) (hd1 : (keys d1).Nodup) :
    (bothRows flag M d1 d2).countP p = cnt (fun a1 a2 => p (compareRow flag M a1 a2)) d1 d2 := by
  rw [bothRows, cnt, List.countP_filterMap, List.countP_map]
  apply List.countP_congr
  intro ⟨k, a1⟩ h
  simp only [Function.comp, dictGet?_of_mem d1 hd1 k a1 h, Option.any_some]
  cases dictGet? d2 k <;> simp

theorem cnt_swap (f g : BAl → BAl → Bool) (hfg : ∀ a1 a2, f a1 a2 = g a2 a1) (d1 d2 : List (Key × BAl))
    (hd1 : (keys d1).Nodup) (hd2 : (keys d2).Nodup) : cnt f d1 d2 = cnt g d2 d1 := by
  unfold cnt
  rw [countP_eq_of_nodup _ hd1 hd2]
  · exact List.countP_congr fun k _ => by cases dictGet? d1 k <;> cases dictGet? d2 k <;> simp [hfg]
  · intro k
    rw [← List.contains_iff_mem, ← List.contains_iff_mem, ← dictGet?_isSome, ← dictGet?_isSome]
    cases dictGet? d1 k <;> cases dictGet? d2 k <;> simp

theorem bothRows_swap (flag M) (p : RowCmp → Bool)
    (hp : ∀ a1 a2, p (compareRow flag M a1 a2) = p (compareRow flag M a2 a1)) (d1 d2 : List (Key × BAl))
    (hd1 : (keys d1).Nodup) (hd2 : (keys d2).Nodup) :
    ((bothRows flag M d1 d2).filter p).length = ((bothRows flag M d2 d1).filter p).length := by
  rw [← List.countP_eq_length_filter, ← List.countP_eq_length_filter,
    countP_bothRows_eq_cnt _ _ _ _ _ hd1, countP_bothRows_eq_cnt _ _ _ _ _ hd2]
  exact cnt_swap _ _ hp _ _ hd1 hd2

end Compare
open Compare

theorem compare_partition (flag : Bool) (M : List BPair → List BPair → Nat) (as1 as2 : List BAl) :
    let c := compareSets flag M as1 as2
    let k1 := (toDict as1).map (·.1)
    let k2 := (toDict as2).map (·.1)
    c.overlapping + c.nonOverlapping = (k1.filter (fun k => k2.contains k)).length ∧
    c.firstOnly = (k1.filter (fun k => !k2.contains k)).length ∧
    c.secondOnly = (k2.filter (fun k => !k1.contains k)).length ∧
    c.overlapping + c.nonOverlapping + c.firstOnly + c.secondOnly =
      k1.length + (k2.filter (fun k => !k1.contains k)).length := by
  intro c k1 k2
  obtain ⟨h1, h2, h3, h4⟩ := counts flag M as1 as2
  have hA : c.overlapping + c.nonOverlapping = (k1.filter (fun k => k2.contains k)).length := by
    show (compareSets flag M as1 as2).overlapping + (compareSets flag M as1 as2).nonOverlapping = _
    rw [h1, h2, filter_not_add, bothRows_length]
  have hB : c.firstOnly = (k1.filter (fun k => !k2.contains k)).length := h3.trans (onlyRows_length ..)
  have hC : c.secondOnly = (k2.filter (fun k => !k1.contains k)).length := h4.trans (onlyRows_length ..)
  refine ⟨hA, hB, hC, ?_⟩
  rw [hA, hB, hC, filter_not_add]

theorem compare_bounds (flag : Bool) (M : List BPair → List BPair → Nat) (hM : MatcherOK M) (as1 as2 : List BAl) :
    ∀ r ∈ (compareSets flag M as1 as2).rows,
      0 ≤ r.ident ∧ r.ident ≤ 1 ∧ 0 ≤ r.cov1 ∧ r.cov1 ≤ 1 ∧ 0 ≤ r.cov2 ∧ r.cov2 ≤ 1 := by
  intro r hr
  simp only [compareSets_eq, allRows, List.mem_append, or_assoc] at hr
  rcases hr with h | h | h
  · obtain ⟨k, a1, a2, _, _, rfl⟩ := mem_bothRows h
    exact compareRow_bounds flag hM a1 a2
  · exact onlyRows_bounds h
  · exact onlyRows_bounds h

theorem compare_reflexive (flag : Bool) (M : List BPair → List BPair → Nat) (hM : MatcherOK M) (as : List BAl) :
    let c := compareSets flag M as as
    c.firstOnly = 0 ∧ c.secondOnly = 0 ∧ c.nonOverlapping = 0 ∧ c.overlapping = ((toDict as).map (·.1)).length ∧
    ∀ r ∈ c.rows, r.type = .both ∧ r.ident = 1 ∧ r.cov1 = 1 ∧ r.cov2 = 1 ∧ r.diff1 = [] ∧ r.diff2 = [] := by
  dsimp only
  obtain ⟨h1, h2, h3, h4⟩ := counts flag M as as
  have hd := (toDict_spec as).1
  have hrow : ∀ r ∈ bothRows flag M (toDict as) (toDict as),
      r.type = .both ∧ r.ident = 1 ∧ r.cov1 = 1 ∧ r.cov2 = 1 ∧ r.diff1 = [] ∧ r.diff2 = [] := by
    intro r hr
    obtain ⟨k, a1, a2, hm, hg, rfl⟩ := mem_bothRows hr
    cases (dictGet?_of_mem _ hd k a1 hm).symm.trans hg
    exact compareRow_self flag hM a1
  have hov : ∀ r ∈ bothRows flag M (toDict as) (toDict as), r.overlapping = true := by
    intro r hr
    rw [RowCmp.overlapping, (hrow r hr).2.1]; rfl
  refine ⟨?_, ?_, ?_, ?_, ?_⟩
  · rw [h3, onlyRows_self]; rfl
  · rw [h4, onlyRows_self]; rfl
  · rw [h2, List.filter_eq_nil_iff.2 fun r hr => by simp [hov r hr]]; rfl
  · rw [h1, List.filter_eq_self.2 hov, bothRows_length, List.filter_eq_self.2 fun k hk => by simpa using hk]
  · intro r hr
    rw [compareSets_eq, allRows, onlyRows_self, onlyRows_self, List.append_nil, List.append_nil] at hr
    exact hrow r hr

theorem compare_swap_counts (flag : Bool) (M : List BPair → List BPair → Nat) (hM : MatcherOK M) (as1 as2 : List BAl) :
    (compareSets flag M as1 as2).firstOnly = (compareSets flag M as2 as1).secondOnly ∧
    (compareSets flag M as1 as2).secondOnly = (compareSets flag M as2 as1).firstOnly ∧
    (compareSets flag M as1 as2).overlapping = (compareSets flag M as2 as1).overlapping ∧
    (compareSets flag M as1 as2).nonOverlapping = (compareSets flag M as2 as1).nonOverlapping := by
  obtain ⟨h1, h2, h3, h4⟩ := counts flag M as1 as2
  obtain ⟨g1, g2, g3, g4⟩ := counts flag M as2 as1
  have hd1 := (toDict_spec as1).1
  have hd2 := (toDict_spec as2).1
  refine ⟨?_, ?_, ?_, ?_⟩
  · rw [h3, g4, onlyRows_length, onlyRows_length]
  · rw [h4, g3, onlyRows_length, onlyRows_length]
  · rw [h1, g1]
    exact bothRows_swap flag M _ (compareRow_overlapping_swap flag hM) _ _ hd1 hd2
  · rw [h2, g2]
    exact bothRows_swap flag M _ (fun a1 a2 => by rw [compareRow_overlapping_swap flag hM a1 a2]) _ _ hd1 hd2

end Coma.Proofs
