import Coma.Peaks

/- `find_peaks` as `refine` calls it (`Coma/Peaks.lean`), from the definitions: `plateaus` returns exactly the local-maximum
   plateaus `IsPlateau` (scan invariant `PInv`), `prominence` is read in coordinates of the array (`prominence_spec`); hence
   which samples `findPeaksSecondary` returns, and that it returns one between a rise and a fall (`peak_between`). -/
namespace Coma.Proofs

/-- a strictly smaller sample on either side, so neither edge touches an end of the array -/
def IsPlateau (x : List Int) (l r : Nat) : Prop :=
  1 ≤ l ∧ l ≤ r ∧ r + 1 < x.length ∧
  (∀ i, l ≤ i → i ≤ r → x[i]? = x[l]?) ∧
  (∃ a v b, x[l - 1]? = some a ∧ x[l]? = some v ∧ x[r + 1]? = some b ∧ a < v ∧ b < v)

namespace Peaks

/-- the state of the scan before sample `i`: the run of samples equal to `prev` that ends at `i - 1` starts at
    `s`; it is the candidate exactly when a rise precedes it -/
def PInv (x : List Int) (i : Nat) (prev : Int) (cand : Option Nat) : Prop :=
  ∃ s, s < i ∧ (∀ j, s ≤ j → j < i → x[j]? = some prev) ∧
    ((cand = some s ∧ 1 ≤ s ∧ ∃ a, x[s - 1]? = some a ∧ a < prev) ∨
      (cand = none ∧ (s = 0 ∨ ∃ a, x[s - 1]? = some a ∧ prev < a)))

theorem PInv_prev {x : List Int} {i : Nat} {prev : Int} {cand : Option Nat} (h : PInv x i prev cand) :
    1 ≤ i ∧ x[i - 1]? = some prev := by
  obtain ⟨s, hs, hrun, -⟩ := h
  exact ⟨Nat.zero_lt_of_lt hs, hrun (i - 1) (Nat.le_sub_one_of_lt hs) (Nat.sub_one_lt_of_lt hs)⟩

theorem PInv_step {x : List Int} {i : Nat} {prev y : Int} {cand : Option Nat} (hinv : PInv x i prev cand)
    (hy : x[i]? = some y) :
    PInv x (i + 1) y (if prev < y then some i else if y = prev then cand else none) := by
  obtain ⟨hi, hprev⟩ := PInv_prev hinv
  obtain ⟨s, hs, hrun, hc⟩ := hinv
  have hlast : ∀ j, i ≤ j → j < i + 1 → x[j]? = some y := fun j h1 h2 => by
    rw [Nat.le_antisymm (Nat.le_of_lt_succ h2) h1]; exact hy
  by_cases h1 : prev < y
  · rw [if_pos h1]
    exact ⟨i, Nat.lt_succ_self _, hlast, Or.inl ⟨rfl, hi, prev, hprev, h1⟩⟩
  · rw [if_neg h1]
    by_cases h2 : y = prev
    · subst h2
      rw [if_pos rfl]
      refine ⟨s, Nat.lt_succ_of_lt hs, fun j hj1 hj2 => ?_, hc⟩
      rcases Nat.lt_succ_iff_lt_or_eq.mp hj2 with h | rfl
      · exact hrun j hj1 h
      · exact hy
    · rw [if_neg h2]
      exact ⟨i, Nat.lt_succ_self _, hlast, Or.inr ⟨rfl, Or.inr ⟨prev, hprev, by omega⟩⟩⟩

theorem plateau_ends_iff {x : List Int} {i l r : Nat} {prev y : Int} {cand : Option Nat} (hinv : PInv x i prev cand)
    (hy : x[i]? = some y) : IsPlateau x l r ∧ r + 1 = i ↔ (y < prev ∧ cand = some l) ∧ r + 1 = i := by
  obtain ⟨s, hs, hrun, hc⟩ := hinv
  constructor
  · rintro ⟨⟨h1, h2, h3, h4, a, v, b, ha, hv, hb, hav, hbv⟩, rfl⟩
    have hvp := hrun r (Nat.le_of_lt_succ hs) (Nat.lt_succ_self _)
    rw [h4 r h2 (Nat.le_refl _), hv] at hvp
    cases hvp
    rw [hb] at hy
    cases hy
    have hls : l = s := by
      rcases Nat.lt_trichotomy l s with h | h | h
      · have e := h4 (s - 1) (Nat.le_sub_one_of_lt h) (Nat.le_trans (Nat.sub_le _ _) (Nat.le_of_lt_succ hs))
        rw [hv] at e
        rcases hc with ⟨_, _, a', ha', h'⟩ | ⟨_, h0 | ⟨a', ha', h'⟩⟩
        · rw [e] at ha'; cases ha'; exact absurd h' (Int.lt_irrefl _)
        · rw [h0] at h; exact absurd h (Nat.not_lt_zero _)
        · rw [e] at ha'; cases ha'; exact absurd h' (Int.lt_irrefl _)
      · exact h
      · have e := hrun (l - 1) (Nat.le_sub_one_of_lt h) (Nat.lt_of_lt_of_le (Nat.sub_one_lt_of_lt h) (Nat.le_succ_of_le h2))
        rw [ha] at e; cases e; exact absurd hav (Int.lt_irrefl _)
    subst hls
    refine ⟨⟨hbv, ?_⟩, rfl⟩
    rcases hc with ⟨hc, _⟩ | ⟨_, h0 | ⟨a', ha', h'⟩⟩
    · exact hc
    · rw [h0] at h1; exact absurd h1 (Nat.not_succ_le_zero _)
    · rw [ha] at ha'; cases ha'; exact absurd hav (Int.lt_asymm h')
  · rintro ⟨⟨hlt, hcand⟩, rfl⟩
    rcases hc with ⟨hc, hs1, a, ha, hav⟩ | ⟨hc, _⟩
    · rw [hcand] at hc
      cases hc
      have hlen : r + 1 < x.length := (List.getElem?_eq_some_iff.mp hy).1
      have hl := hrun l (Nat.le_refl _) hs
      exact ⟨⟨hs1, Nat.le_of_lt_succ hs, hlen, fun j h1 h2 => by rw [hrun j h1 (Nat.lt_succ_of_le h2), hl],
        a, prev, y, ha, hl, hy, hav, hlt⟩, rfl⟩
    · rw [hcand] at hc; cases hc

theorem plateau_after_fall {x : List Int} {i l r : Nat} {prev y : Int} (hp : IsPlateau x l r)
    (hprev : x[i - 1]? = some prev) (hy : x[i]? = some y) (hlt : y < prev) (hr : i ≤ r) : i < l := by
  obtain ⟨h1, h2, h3, h4, a, v, b, ha, hv, hb, hav, hbv⟩ := hp
  rcases Nat.lt_trichotomy l i with h | rfl | h
  · have e1 := h4 (i - 1) (Nat.le_sub_one_of_lt h) (Nat.le_trans (Nat.sub_le _ _) hr)
    have e2 := h4 i (Nat.le_of_lt h) hr
    rw [hprev, ← e2, hy] at e1
    cases e1; exact absurd hlt (Int.lt_irrefl _)
  · rw [hprev] at ha; rw [hy] at hv
    cases ha; cases hv; exact absurd hlt (Int.lt_asymm hav)
  · exact h

private theorem ends_or_later {P : Prop} {i r : Nat} (E : Prop) (h : P ∧ r + 1 = i ↔ E ∧ r + 1 = i) :
    (E ∧ r + 1 = i) ∨ (P ∧ i + 1 ≤ r + 1) ↔ P ∧ i ≤ r + 1 := by
  constructor
  · rintro (e | ⟨hp, hr⟩)
    · exact ⟨(h.mpr e).1, Nat.le_of_eq e.2.symm⟩
    · exact ⟨hp, Nat.le_of_succ_le hr⟩
  · rintro ⟨hp, hr⟩
    rcases Nat.eq_or_lt_of_le hr with e | hr
    · exact Or.inl (h.mp ⟨hp, e.symm⟩)
    · exact Or.inr ⟨hp, hr⟩

theorem plateausGo_spec (x : List Int) : ∀ (d i : Nat) (prev : Int) (cand : Option Nat),
    i + d = x.length → PInv x i prev cand →
    (plateausGo i prev cand (x.drop i)).Pairwise (fun a b => a.2 + 1 < b.1) ∧
      ∀ l r, (l, r) ∈ plateausGo i prev cand (x.drop i) ↔ IsPlateau x l r ∧ i ≤ r + 1 := by
  intro d
  induction d with
  | zero =>
    intro i prev cand hd _
    have hlen : x.length ≤ i := Nat.le_of_eq hd.symm
    rw [List.drop_eq_nil_of_le hlen]
    refine ⟨List.Pairwise.nil, fun l r => ?_⟩
    simp only [plateausGo, List.not_mem_nil, false_iff]
    rintro ⟨hp, hi⟩
    exact absurd (Nat.lt_of_lt_of_le hp.2.2.1 hlen) (Nat.not_lt.mpr hi)
  | succ d ih =>
    intro i prev cand hd hinv
    have hil : i < x.length := by omega
    have hy : x[i]? = some x[i] := List.getElem?_eq_getElem hil
    rw [List.drop_eq_getElem_cons hil]
    obtain ⟨hs, hm⟩ := ih (i + 1) x[i] _ (by omega) (PInv_step hinv hy)
    have hends := fun l r => ends_or_later _ (plateau_ends_iff (l := l) (r := r) hinv hy)
    unfold plateausGo
    by_cases h1 : prev < x[i]
    · rw [if_pos h1] at hs hm ⊢
      refine ⟨hs, fun l r => ?_⟩
      rw [hm, ← hends]
      exact (or_iff_right fun h => Int.lt_asymm h1 h.1.1).symm
    · rw [if_neg h1] at hs hm ⊢
      by_cases h2 : x[i] = prev
      · rw [if_pos h2] at hs hm ⊢
        refine ⟨hs, fun l r => ?_⟩
        rw [hm, ← hends]
        exact (or_iff_right fun h => Int.lt_irrefl _ (h2 ▸ h.1.1)).symm
      · rw [if_neg h2] at hs hm ⊢
        cases cand with
        | none =>
          refine ⟨hs, fun l r => ?_⟩
          rw [hm, ← hends]
          exact (or_iff_right fun h => nomatch h.1.2).symm
        | some l0 =>
          obtain ⟨hi, hprev⟩ := PInv_prev hinv
          have hi1 : i - 1 + 1 = i := Nat.sub_add_cancel hi
          have hlt : x[i] < prev := by omega
          refine ⟨List.pairwise_cons.mpr ⟨fun p hp => ?_, hs⟩, fun l r => ?_⟩
          · obtain ⟨hp1, hp2⟩ := (hm p.1 p.2).mp hp
            show i - 1 + 1 < p.1
            rw [hi1]
            exact plateau_after_fall hp1 hprev hy hlt (Nat.le_of_succ_le_succ hp2)
          · rw [List.mem_cons, hm, ← hends, Prod.mk.injEq]
            exact or_congr_left ⟨fun ⟨e1, e2⟩ => ⟨⟨hlt, by rw [e1]⟩, by rw [e2, hi1]⟩,
              fun ⟨⟨_, e1⟩, e2⟩ => ⟨(Option.some.inj e1).symm, by rw [← e2]; rfl⟩⟩

end Peaks
open Peaks

theorem plateaus_spec (x : List Int) :
    (plateaus x).Pairwise (fun a b => a.2 + 1 < b.1) ∧ ∀ l r, (l, r) ∈ plateaus x ↔ IsPlateau x l r := by
  cases x with
  | nil =>
    refine ⟨List.Pairwise.nil, fun l r => ?_⟩
    simp only [plateaus, List.not_mem_nil, false_iff]
    intro hp
    exact absurd hp.2.2.1 (Nat.not_lt_zero _)
  | cons y ys =>
    have hinv : PInv (y :: ys) 1 y none :=
      ⟨0, Nat.lt_succ_self _, fun j _ hj => by rw [Nat.lt_one_iff.mp hj]; rfl, Or.inr ⟨rfl, Or.inl rfl⟩⟩
    obtain ⟨hs, hm⟩ := plateausGo_spec (y :: ys) ys.length 1 y none (Nat.add_comm _ _) hinv
    refine ⟨hs, fun l r => (hm l r).trans ⟨fun h => h.1, fun hp => ⟨hp, ?_⟩⟩⟩
    exact Nat.le_trans hp.1 (Nat.le_succ_of_le hp.2.1)

namespace Peaks

theorem runMin_left (v : Int) (x : List Int) : ∀ (p : Nat) (cur : Int), p ≤ x.length →
    ∃ lo, lo ≤ p ∧
      (∀ i, lo ≤ i → i < p → ∃ y, x[i]? = some y ∧ y ≤ v ∧ runMin v cur (x.take p).reverse ≤ y) ∧
      (lo = 0 ∨ ∃ y, x[lo - 1]? = some y ∧ v < y) ∧
      runMin v cur (x.take p).reverse ≤ cur ∧
      (runMin v cur (x.take p).reverse = cur ∨
        ∃ i, lo ≤ i ∧ i < p ∧ x[i]? = some (runMin v cur (x.take p).reverse)) := by
  intro p
  induction p with
  | zero =>
    intro cur _
    exact ⟨0, Nat.le_refl _, fun i _ h => absurd h (Nat.not_lt_zero _), Or.inl rfl, Int.le_refl _, Or.inl rfl⟩
  | succ p ih =>
    intro cur hp
    have hx : x[p]? = some x[p] := List.getElem?_eq_getElem hp
    have hstep : (x.take (p + 1)).reverse = x[p] :: (x.take p).reverse := by
      rw [List.take_add_one, hx, List.reverse_append]; rfl
    rw [hstep]
    unfold runMin
    by_cases hy : x[p] ≤ v
    · rw [if_pos hy]
      obtain ⟨lo, h1, h2, h3, h4, h5⟩ := ih (min cur x[p]) (Nat.le_of_succ_le hp)
      refine ⟨lo, Nat.le_succ_of_le h1, fun i hi1 hi2 => ?_, h3, Int.le_trans h4 (Int.min_le_left _ _), ?_⟩
      · rcases Nat.lt_succ_iff_lt_or_eq.mp hi2 with h | rfl
        · exact h2 i hi1 h
        · exact ⟨_, hx, hy, Int.le_trans h4 (Int.min_le_right _ _)⟩
      · rcases h5 with h5 | ⟨i, hi1, hi2, hi3⟩
        · rw [h5]
          rcases Int.le_total cur x[p] with hc | hc
          · exact Or.inl (Int.min_eq_left hc)
          · exact Or.inr ⟨p, h1, Nat.lt_succ_self _, by rw [Int.min_eq_right hc]; exact hx⟩
        · exact Or.inr ⟨i, hi1, Nat.lt_succ_of_lt hi2, hi3⟩
    · rw [if_neg hy]
      exact ⟨p + 1, Nat.le_refl _, fun i h1 h2 => absurd h2 (Nat.not_lt.mpr h1),
        Or.inr ⟨_, hx, Int.not_le.mp hy⟩, Int.le_refl _, Or.inl rfl⟩

theorem runMin_right (v : Int) (x : List Int) : ∀ (d p : Nat) (cur : Int), p + 1 + d = x.length →
    ∃ hi, p ≤ hi ∧ hi < x.length ∧
      (∀ i, p < i → i ≤ hi → ∃ y, x[i]? = some y ∧ y ≤ v ∧ runMin v cur (x.drop (p + 1)) ≤ y) ∧
      (hi + 1 = x.length ∨ ∃ y, x[hi + 1]? = some y ∧ v < y) ∧
      runMin v cur (x.drop (p + 1)) ≤ cur ∧
      (runMin v cur (x.drop (p + 1)) = cur ∨
        ∃ i, p < i ∧ i ≤ hi ∧ x[i]? = some (runMin v cur (x.drop (p + 1)))) := by
  intro d
  induction d with
  | zero =>
    intro p cur hp
    rw [List.drop_eq_nil_of_le (Nat.le_of_eq hp.symm)]
    exact ⟨p, Nat.le_refl _, hp ▸ Nat.lt_succ_self p, fun i h1 h2 => absurd h2 (Nat.not_le.mpr h1),
      Or.inl hp, Int.le_refl _, Or.inl rfl⟩
  | succ d ih =>
    intro p cur hp
    have hlt : p + 1 < x.length := by omega
    have hx : x[p + 1]? = some x[p + 1] := List.getElem?_eq_getElem hlt
    rw [List.drop_eq_getElem_cons hlt]
    unfold runMin
    by_cases hy : x[p + 1] ≤ v
    · rw [if_pos hy]
      obtain ⟨hi, h1, h1', h2, h3, h4, h5⟩ := ih (p + 1) (min cur x[p + 1]) (by omega)
      refine ⟨hi, Nat.le_of_succ_le h1, h1', fun i hi1 hi2 => ?_, h3, Int.le_trans h4 (Int.min_le_left _ _), ?_⟩
      · rcases Nat.eq_or_lt_of_le hi1 with rfl | h
        · exact ⟨_, hx, hy, Int.le_trans h4 (Int.min_le_right _ _)⟩
        · exact h2 i h hi2
      · rcases h5 with h5 | ⟨i, hi1, hi2, hi3⟩
        · rw [h5]
          rcases Int.le_total cur x[p + 1] with hc | hc
          · exact Or.inl (Int.min_eq_left hc)
          · exact Or.inr ⟨p + 1, Nat.lt_succ_self _, h1, by rw [Int.min_eq_right hc]; exact hx⟩
        · exact Or.inr ⟨i, Nat.lt_of_succ_lt hi1, hi2, hi3⟩
    · rw [if_neg hy]
      exact ⟨p, Nat.le_refl _, Nat.lt_of_succ_lt hlt, fun i h1 h2 => absurd h2 (Nat.not_le.mpr h1),
        Or.inr ⟨_, hx, Int.not_le.mp hy⟩, Int.le_refl _, Or.inl rfl⟩

end Peaks

/-- `[lo, hi]` is the largest interval around `p` whose samples are all `≤ v`; `lm`, `rm` are the minima over `[lo, p]`
    and `[p, hi]` -/
theorem prominence_spec (x : List Int) (p : Nat) (v : Int) (hv : x[p]? = some v) :
    ∃ lo hi, lo ≤ p ∧ p ≤ hi ∧ hi < x.length ∧
      (∀ i, lo ≤ i → i ≤ hi → ∃ y, x[i]? = some y ∧ y ≤ v) ∧
      (lo = 0 ∨ ∃ y, x[lo - 1]? = some y ∧ v < y) ∧
      (hi + 1 = x.length ∨ ∃ y, x[hi + 1]? = some y ∧ v < y) ∧
      ∃ lm rm,
        (∃ i, lo ≤ i ∧ i ≤ p ∧ x[i]? = some lm) ∧ (∀ i y, lo ≤ i → i ≤ p → x[i]? = some y → lm ≤ y) ∧
        (∃ i, p ≤ i ∧ i ≤ hi ∧ x[i]? = some rm) ∧ (∀ i y, p ≤ i → i ≤ hi → x[i]? = some y → rm ≤ y) ∧
        prominence x p = v - max lm rm := by
  have hp : p < x.length := (List.getElem?_eq_some_iff.mp hv).1
  obtain ⟨d, hd⟩ := Nat.exists_eq_add_of_lt hp
  obtain ⟨lo, l1, l2, l3, l4, l5⟩ := runMin_left v x p v (Nat.le_of_lt hp)
  obtain ⟨hi, r1, r1', r2, r3, r4, r5⟩ := runMin_right v x d p v (by omega)
  refine ⟨lo, hi, l1, r1, r1', fun i hi1 hi2 => ?_, l3, r3, _, _, ?_, fun i y hi1 hi2 hy => ?_, ?_,
    fun i y hi1 hi2 hy => ?_, by unfold prominence; rw [hv]⟩
  · rcases Nat.lt_trichotomy i p with h | rfl | h
    · obtain ⟨y, e, hy, _⟩ := l2 i hi1 h; exact ⟨y, e, hy⟩
    · exact ⟨v, hv, Int.le_refl _⟩
    · obtain ⟨y, e, hy, _⟩ := r2 i h hi2; exact ⟨y, e, hy⟩
  · rcases l5 with h | ⟨i, h1, h2, h3⟩
    · exact ⟨p, l1, Nat.le_refl _, by rw [h]; exact hv⟩
    · exact ⟨i, h1, Nat.le_of_lt h2, h3⟩
  · rcases Nat.eq_or_lt_of_le hi2 with rfl | h
    · rw [hv] at hy; cases hy; exact l4
    · obtain ⟨y', e, _, h'⟩ := l2 i hi1 h
      rw [hy] at e; cases e; exact h'
  · rcases r5 with h | ⟨i, h1, h2, h3⟩
    · exact ⟨p, Nat.le_refl _, r1, by rw [h]; exact hv⟩
    · exact ⟨i, Nat.le_of_lt h1, h2, h3⟩
  · rcases Nat.eq_or_lt_of_le hi1 with rfl | h
    · rw [hv] at hy; cases hy; exact r4
    · obtain ⟨y', e, _, h'⟩ := r2 i h hi2
      rw [hy] at e; cases e; exact h'

theorem prominence_ge (x : List Int) (p : Nat) (v : Int) (hv : x[p]? = some v) (il ir : Nat) (yl yr : Int)
    (hil : il < p) (hir : p < ir) (hyl : x[il]? = some yl) (hyr : x[ir]? = some yr)
    (hleft : ∀ i y, il ≤ i → i < p → x[i]? = some y → y ≤ v)
    (hright : ∀ i y, p < i → i ≤ ir → x[i]? = some y → y ≤ v) :
    v - max yl yr ≤ prominence x p := by
  obtain ⟨lo, hi, hlp, hph, hlen, -, hlo, hhi, lm, rm, -, hlm, -, hrm, hprom⟩ := prominence_spec x p v hv
  have h1 : lo ≤ il := by
    rcases hlo with rfl | ⟨y, hy, hvy⟩
    · exact Nat.zero_le _
    · exact Nat.le_of_not_lt fun hn => Int.not_le.mpr hvy (hleft (lo - 1) y (Nat.le_sub_one_of_lt hn)
        (Nat.lt_of_lt_of_le (Nat.sub_one_lt_of_lt hn) hlp) hy)
  have h2 : ir ≤ hi := by
    rcases hhi with h | ⟨y, hy, hvy⟩
    · exact Nat.le_of_lt_succ (h.symm ▸ (List.getElem?_eq_some_iff.mp hyr).1 : ir < hi + 1)
    · exact Nat.le_of_not_lt fun hn => Int.not_le.mpr hvy (hright (hi + 1) y (Nat.lt_succ_of_le hph) hn hy)
  rw [hprom]
  exact Int.sub_le_sub_left (Int.max_le.mpr ⟨Int.le_trans (hlm il yl h1 (Nat.le_of_lt hil) hyl) (Int.le_max_left _ _),
    Int.le_trans (hrm ir yr (Nat.le_of_lt hir) h2 hyr) (Int.le_max_right _ _)⟩) _

theorem prominence_nonneg (x : List Int) (p : Nat) : 0 ≤ prominence x p := by
  cases h : x[p]? with
  | none => unfold prominence; rw [h]; exact Int.le_refl _
  | some v =>
    obtain ⟨lo, hi, hlp, hph, -, -, -, -, lm, rm, -, hlm, -, hrm, hprom⟩ := prominence_spec x p v h
    rw [hprom]
    exact Int.sub_nonneg_of_le (Int.max_le.mpr ⟨hlm p v hlp (Nat.le_refl _) h, hrm p v (Nat.le_refl _) hph h⟩)

theorem maxInit0_spec (x : List Int) :
    0 ≤ maxInit0 x ∧ (∀ y ∈ x, y ≤ maxInit0 x) ∧ (maxInit0 x = 0 ∨ maxInit0 x ∈ x) := by
  induction x with
  | nil => exact ⟨Int.le_refl _, fun _ h => absurd h List.not_mem_nil, Or.inl rfl⟩
  | cons a xs ih =>
    obtain ⟨h1, h2, h3⟩ := ih
    unfold maxInit0
    refine ⟨Int.le_trans h1 (Int.le_max_right _ _), fun y hy => ?_, ?_⟩
    · rcases List.mem_cons.mp hy with rfl | hy
      · exact Int.le_max_left _ _
      · exact Int.le_trans (h2 y hy) (Int.le_max_right _ _)
    · rcases Int.le_total (maxInit0 xs) a with h | h
      · rw [Int.max_eq_left h]; exact Or.inr List.mem_cons_self
      · rw [Int.max_eq_right h]; exact h3.imp id (List.mem_cons_of_mem _)

theorem localMaxima_iff (x : List Int) (p : Nat) :
    p ∈ localMaxima x ↔ ∃ l r, IsPlateau x l r ∧ p = (l + r) / 2 := by
  unfold localMaxima
  rw [List.mem_map]
  constructor
  · rintro ⟨⟨l, r⟩, hm, rfl⟩
    exact ⟨l, r, ((plateaus_spec x).2 l r).mp hm, rfl⟩
  · rintro ⟨l, r, hp, rfl⟩
    exact ⟨(l, r), ((plateaus_spec x).2 l r).mpr hp, rfl⟩

theorem localMaxima_interior (x : List Int) (p : Nat) (h : p ∈ localMaxima x) : 0 < p ∧ p + 1 < x.length := by
  obtain ⟨l, r, hp, rfl⟩ := (localMaxima_iff x p).mp h
  obtain ⟨h1, h2, h3, _⟩ := hp
  omega

theorem localMaxima_sorted (x : List Int) : (localMaxima x).Pairwise (· < ·) := by
  unfold localMaxima
  rw [List.pairwise_map]
  refine List.Pairwise.imp_of_mem ?_ (plateaus_spec x).1
  intro a b ha hb hab
  obtain ⟨_, ha2, _⟩ := ((plateaus_spec x).2 a.1 a.2).mp ha
  obtain ⟨_, hb2, _⟩ := ((plateaus_spec x).2 b.1 b.2).mp hb
  omega

namespace Peaks

/-- the test `findPeaksSecondary` applies to the local maximum `a` (`m` = largest sample) -/
theorem test_eq_some {thr : Rat} {x : List Int} {m : Int} {a p : Nat} {h : Int} :
    (match (x[a]? : Option Int) with
      | none   => none
      | some h => if thr ≤ ((h : Int) : Rat) ∧ m ≤ 20 * prominence x a then some (a, h) else none) = some (p, h) ↔
    p = a ∧ x[a]? = some h ∧ thr ≤ (h : Rat) ∧ m ≤ 20 * prominence x a := by
  cases (x[a]? : Option Int) with
  | none => exact ⟨nofun, fun h => nomatch h.2.1⟩
  | some v =>
    dsimp only
    by_cases hc : thr ≤ (v : Rat) ∧ m ≤ 20 * prominence x a
    · rw [if_pos hc]
      exact ⟨fun e => by cases e; exact ⟨rfl, rfl, hc⟩, fun ⟨h1, h2, _⟩ => by rw [h1, Option.some.inj h2]⟩
    · rw [if_neg hc]
      exact ⟨nofun, fun ⟨_, h2, h3⟩ => absurd (Option.some.inj h2 ▸ h3) hc⟩

end Peaks

theorem findPeaksSecondary_iff (thr : Rat) (x : List Int) (p : Nat) (h : Int) :
    (p, h) ∈ findPeaksSecondary thr x ↔
      p ∈ localMaxima x ∧ x[p]? = some h ∧ thr ≤ (h : Rat) ∧ maxInit0 x ≤ 20 * prominence x p := by
  unfold findPeaksSecondary
  rw [List.mem_filterMap]
  exact ⟨fun ⟨a, ha, hf⟩ => by obtain ⟨rfl, h⟩ := Peaks.test_eq_some.mp hf; exact ⟨ha, h⟩,
    fun ⟨h1, h2⟩ => ⟨p, h1, Peaks.test_eq_some.mpr ⟨rfl, h2⟩⟩⟩

theorem findPeaksSecondary_sorted (thr : Rat) (x : List Int) :
    ((findPeaksSecondary thr x).map (·.1)).Pairwise (· < ·) := by
  unfold findPeaksSecondary
  rw [List.pairwise_map, List.pairwise_filterMap]
  refine (localMaxima_sorted x).imp fun hab pa hpa pb hpb => ?_
  rw [(Peaks.test_eq_some.mp hpa).1, (Peaks.test_eq_some.mp hpb).1]
  exact hab

theorem findPeaks_of_plateau (thr : Rat) (x : List Int) (l r : Nat) (v : Int) (hpl : IsPlateau x l r)
    (hv : x[l]? = some v) (hthr : thr ≤ (v : Rat)) (il ir : Nat) (yl yr : Int) (hil : il < l) (hir : r < ir)
    (hyl : x[il]? = some yl) (hyr : x[ir]? = some yr)
    (hle : ∀ i y, il ≤ i → i ≤ ir → x[i]? = some y → y ≤ v) (hprom : maxInit0 x ≤ 20 * (v - max yl yr)) :
    ((l + r) / 2, v) ∈ findPeaksSecondary thr x := by
  have hm : l ≤ (l + r) / 2 ∧ (l + r) / 2 ≤ r := by have := hpl.2.1; omega
  have hp : x[(l + r) / 2]? = some v := by rw [hpl.2.2.2.1 _ hm.1 hm.2]; exact hv
  have hge := prominence_ge x _ v hp il ir yl yr (Nat.lt_of_lt_of_le hil hm.1) (Nat.lt_of_le_of_lt hm.2 hir) hyl hyr
    (fun i y h1 h2 hy => hle i y h1 (by omega) hy) (fun i y h1 h2 hy => hle i y (by omega) h2 hy)
  exact (findPeaksSecondary_iff ..).mpr ⟨(localMaxima_iff x _).mpr ⟨l, r, hpl, rfl⟩, hp, hthr, by omega⟩

namespace Peaks

theorem max_plateau (f : Nat → Int) (l r : Nat) (hlr : l < r) (hl : f l < f (l + 1)) :
    ∃ s e, l ≤ s ∧ s < e ∧ e ≤ r ∧ (∀ i, s < i → i ≤ e → f i = f e) ∧ f s < f e ∧
      (∀ i, l ≤ i → i ≤ r → f i ≤ f e) ∧ (e < r → f (e + 1) < f e) := by
  induction r with
  | zero => omega
  | succ r ih =>
    by_cases h : l < r
    · obtain ⟨s, e, h1, h2, h3, heq, hs, hle, hnext⟩ := ih h
      have hle' : ∀ v, f e ≤ v → f (r + 1) ≤ v → ∀ i, l ≤ i → i ≤ r + 1 → f i ≤ v := fun v hv hc i hi1 hi2 => by
        rcases Nat.eq_or_lt_of_le hi2 with rfl | hi
        · exact hc
        · exact Int.le_trans (hle i hi1 (Nat.le_of_lt_succ hi)) hv
      -- the next sample is lower (keep the plateau), equal (extend it if it ends at `r`) or higher (a new plateau)
      rcases Int.lt_trichotomy (f (r + 1)) (f e) with hc | hc | hc
      · refine ⟨s, e, h1, h2, Nat.le_succ_of_le h3, heq, hs, hle' _ (Int.le_refl _) (Int.le_of_lt hc), fun _ => ?_⟩
        rcases Nat.eq_or_lt_of_le h3 with rfl | her
        · exact hc
        · exact hnext her
      · rcases Nat.eq_or_lt_of_le h3 with rfl | her
        · refine ⟨s, e + 1, h1, Nat.lt_succ_of_lt h2, Nat.le_refl _, fun i hi1 hi2 => ?_, hc ▸ hs,
            hle' _ (Int.le_of_eq hc.symm) (Int.le_refl _), fun h => absurd h (Nat.lt_irrefl _)⟩
          rcases Nat.eq_or_lt_of_le hi2 with rfl | hi
          · rfl
          · rw [hc]; exact heq i hi1 (Nat.le_of_lt_succ hi)
        · exact ⟨s, e, h1, h2, Nat.le_succ_of_le h3, heq, hs, hle' _ (Int.le_refl _) (Int.le_of_eq hc),
            fun _ => hnext her⟩
      · exact ⟨r, r + 1, Nat.le_of_lt h, Nat.lt_succ_self r, Nat.le_refl _,
          fun i hi1 hi2 => by rw [Nat.le_antisymm hi2 hi1],
          Int.lt_of_le_of_lt (hle r (Nat.le_of_lt h) (Nat.le_refl r)) hc,
          hle' _ (Int.le_of_lt hc) (Int.le_refl _), fun h => absurd h (Nat.lt_irrefl _)⟩
    · have hr : r = l := by omega
      subst hr
      refine ⟨r, r + 1, Nat.le_refl _, Nat.lt_succ_self r, Nat.le_refl _, fun i hi1 hi2 => by rw [Nat.le_antisymm hi2 hi1],
        hl, fun i hi1 hi2 => ?_, fun h => absurd h (Nat.lt_irrefl _)⟩
      rcases Nat.eq_or_lt_of_le hi2 with rfl | hi
      · exact Int.le_refl _
      · rw [Nat.le_antisymm (Nat.le_of_lt_succ hi) hi1]; exact Int.le_of_lt hl

end Peaks

/-- the peak is a plateau of the maximum of the samples `l .. r` (`max_plateau`; `f i` is sample `i`); its prominence is at
    least `g` because it is flanked by sample `l` on the left and sample `r + 1` on the right -/
theorem peak_between (thr : Rat) (x : List Int) (f : Nat → Int) (l r k : Nat) (g : Int) (hlk : l < k) (hkr : k ≤ r)
    (hget : ∀ i, i ≤ r + 1 → x[i]? = some (f i)) (hl : f l + g ≤ f (l + 1)) (hr : f (r + 1) + g ≤ f r) (hg : 1 ≤ g)
    (hthr : thr ≤ (f k : Rat)) (hmax : maxInit0 x ≤ 20 * g) :
    ∃ p h, (p, h) ∈ findPeaksSecondary thr x ∧ l < p ∧ p ≤ r := by
  have hlr : l < r := Nat.lt_of_lt_of_le hlk hkr
  obtain ⟨s, e, h1, h2, h3, heq, hs, hle, hnext⟩ := Peaks.max_plateau f l r hlr (by omega)
  have hl' := hle (l + 1) (Nat.le_succ l) hlr
  have hr' := hle r (Nat.le_of_lt hlr) (Nat.le_refl r)
  have hright : f (e + 1) < f e := by
    rcases Nat.eq_or_lt_of_le h3 with rfl | her
    · omega
    · exact hnext her
  have hs1 : s + 1 ≤ r + 1 := Nat.le_succ_of_le (Nat.le_trans h2 h3)
  have hse : f (s + 1) = f e := heq (s + 1) (Nat.lt_succ_self s) h2
  have hv : x[s + 1]? = some (f e) := hse ▸ hget (s + 1) hs1
  have hpl : IsPlateau x (s + 1) e :=
    ⟨Nat.succ_pos s, h2,
      Nat.lt_of_le_of_lt (Nat.succ_le_succ h3) (List.getElem?_eq_some_iff.mp (hget (r + 1) (Nat.le_refl _))).1,
      fun i hi1 hi2 => by rw [hget i (Nat.le_succ_of_le (Nat.le_trans hi2 h3)), hv, heq i hi1 hi2],
      f s, f e, f (e + 1), hget s (Nat.le_of_succ_le hs1), hv, hget _ (Nat.succ_le_succ h3), hs, hright⟩
  refine ⟨(s + 1 + e) / 2, f e, ?_, by omega, by omega⟩
  refine findPeaks_of_plateau thr x (s + 1) e (f e) hpl hv
    (Rat.le_trans hthr (Rat.intCast_le_intCast.mpr (hle k (Nat.le_of_lt hlk) hkr))) l (r + 1) (f l) (f (r + 1))
    (Nat.lt_succ_of_le h1) (Nat.lt_succ_of_le h3) (hget l (Nat.le_of_lt (Nat.lt_succ_of_lt hlr))) (hget _ (Nat.le_refl _))
    (fun i y hi1 hi2 hy => ?_) (by omega)
  rw [hget i hi2] at hy
  cases hy
  rcases Nat.eq_or_lt_of_le hi2 with rfl | hi
  · omega
  · exact hle i hi1 (Nat.le_of_lt_succ hi)

end Coma.Proofs
