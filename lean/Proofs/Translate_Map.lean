import Proofs.Equivariant_Align

namespace Coma.Proofs
open Coma.Spec

def shiftRef (d : Int) (r : OMap) : OMap := { r with positions := r.positions.map (· + d), length := r.length + d }

namespace Translate

def tLbl (d : Int) (l : Lbl) : Lbl := { l with pos := l.pos + d }
def tPr (d : Int) (p : Pr) : Pr := { p with r := tLbl d p.r }
def tAPos (d : Int) : APos → APos
  | .pair p   => .pair (tPr d p)
  | .uref r   => .uref (tLbl d r)
  | .uqry q s => .uqry q (s + d)
def tSeg (d : Int) (s : Seg) : Seg := { peak := s.peak + d, items := s.items.map (tAPos d) }

variable (d : Int)

@[simp] theorem tLbl_site (l : Lbl) : (tLbl d l).site = l.site := rfl
@[simp] theorem tLbl_pos (l : Lbl) : (tLbl d l).pos = l.pos + d := rfl
@[simp] theorem tPr_r (p : Pr) : (tPr d p).r = tLbl d p.r := rfl
@[simp] theorem tPr_q (p : Pr) : (tPr d p).q = p.q := rfl
@[simp] theorem tPr_shift (p : Pr) : (tPr d p).shift = p.shift := rfl
@[simp] theorem tPr_src (p : Pr) : (tPr d p).src = p.src := rfl
@[simp] theorem tPr_dist (p : Pr) : (tPr d p).dist = p.dist := rfl
@[simp] theorem tAPos_abs (a : APos) : (tAPos d a).abs = a.abs + d := by
  cases a <;> simp [tAPos, APos.abs, Int.add_assoc]
@[simp] theorem tAPos_pair? (a : APos) : (tAPos d a).pair? = a.pair?.map (tPr d) := by cases a <;> rfl
@[simp] theorem tSeg_peak (s : Seg) : (tSeg d s).peak = s.peak + d := rfl
@[simp] theorem tSeg_items (s : Seg) : (tSeg d s).items = s.items.map (tAPos d) := rfl

/-- `(shiftMap d).pr`, `.ap`, `.seg` ARE `tPr d`, `tAPos d`, `tSeg d` (and `shiftPr d`, `shiftAPos d`, `shiftSeg d` of
    Proofs/Translate.lean) by `rfl`, so every theorem of `PMap` applies to them as it stands -/
def shiftMap : PMap := ⟨tLbl d, id, id, (· + d), (· + d)⟩

example : (shiftMap d).ap = tAPos d ∧ (shiftMap d).seg = tSeg d := ⟨rfl, rfl⟩

theorem shiftMap_equi : (shiftMap d).Equi where
  r_pos a b := by show a.pos + d - (b.pos + d) = _; omega
  q_pos _ := rfl
  r_inj a b h := by
    cases a; cases b
    simp only [shiftMap, tLbl, Lbl.mk.injEq] at h ⊢
    exact ⟨h.1, by omega⟩
  q_inj _ _ h := h
  st_inj a b h := by have : a + d = b + d := h; omega
  pk_lt a b := by show a + d < b + d ↔ _; omega

theorem labelsFwd_map (i : Int) (ps : List Int) :
    labelsFwd i (ps.map (· + d)) = (labelsFwd i ps).map (tLbl d) := by
  induction ps generalizing i with
  | nil => rfl
  | cons p ps ih => simp only [List.map_cons, labelsFwd, ih]; rfl

theorem labels_shiftRef (ref : OMap) : (shiftRef d ref).labels false = (ref.labels false).map (tLbl d) := by
  simp only [OMap.labels, shiftRef, Bool.false_eq_true, if_false]
  exact labelsFwd_map d _ _

theorem refWindow_t (md : Int) (ref : OMap) (start stop : Int) :
    refWindow md (shiftRef d ref) (start + d) (stop + d) = (refWindow md ref start stop).map (tLbl d) := by
  unfold refWindow
  rw [labels_shiftRef]
  exact window_map (tLbl d) _ _ _ _ (fun a => by simp only [tLbl_pos]; omega) (fun a => by simp only [tLbl_pos]; omega) _

theorem engineAlign_t (md : Int) (ref qry : OMap) (start stop : Int) (rev : Bool) (it : Int) :
    engineAlign md (shiftRef d ref) qry (start + d) (stop + d) rev it =
      (engineAlign md ref qry start stop rev it).map (tAPos d) := by
  rw [engineAlign_on, engineAlign_on, refWindow_t]
  have h := PMap.engineOn_map (shiftMap d) start (start + d) rfl
    (fun r q => by show q.pos - (r.pos + d - (start + d)) = _; omega) (fun _ _ => Iff.rfl) (fun _ _ => Iff.rfl)
    (fun a b => by show (tAPos d a).abs ≤ (tAPos d b).abs ↔ _; rw [tAPos_abs, tAPos_abs]; omega) md it
    (refWindow md ref start stop) (qry.labels rev)
    (dedup_map (tPr d) (fun _ _ => Iff.rfl) (fun _ _ => Iff.rfl) (fun _ => rfl) _)
  rwa [show (qry.labels rev).map (shiftMap d).q = _ from List.map_id _] at h

theorem engineAlign_peak (md : Int) (ref qry : OMap) (rev : Bool) (it peak : Int) :
    engineAlign md (shiftRef d ref) qry (peak + d) (peak + d + qry.length) rev it =
      (engineAlign md ref qry peak (peak + qry.length) rev it).map (tAPos d) := by
  rw [Int.add_right_comm]
  exact engineAlign_t d md ref qry peak (peak + qry.length) rev it

theorem nullOK_shiftMap {s : Seg} (hs : ∀ a ∈ s.items, ∀ r, refLabel? a = some r →
      (r.pos + d < 0 ↔ r.pos < 0) ∧ (r.site = 0 → (r.pos + d = 0 ↔ r.pos = 0))) : (shiftMap d).NullOK s := by
  intro a ha
  constructor
  · cases a with
    | pair p => exact congrArg (decide (p.q.pos < 0) && ·) (decide_eq_decide.2 (hs _ ha p.r rfl).1)
    | uref r => exact decide_eq_decide.2 (hs _ ha r rfl).1
    | uqry q s => rfl
  · rintro p rfl
    have h := hs _ ha p.r rfl
    have i2 : (tLbl d p.r = ⟨0, 0⟩) ↔ (p.r = ⟨0, 0⟩) := by
      have h2 := h.2
      generalize p.r = r at h2 ⊢
      obtain ⟨s, x⟩ := r
      simp only [tLbl, Lbl.mk.injEq]
      exact ⟨fun ⟨a, b⟩ => ⟨a, (h2 a).1 b⟩, fun ⟨a, b⟩ => ⟨a, (h2 a).2 b⟩⟩
    show (decide (p.q.pos < 0) || decide (p.r.pos + d < 0) || decide (p.q = ⟨0, 0⟩) || decide (tLbl d p.r = ⟨0, 0⟩)) =
      (decide (p.q.pos < 0) || decide (p.r.pos < 0) || decide (p.q = ⟨0, 0⟩) || decide (p.r = ⟨0, 0⟩))
    rw [decide_eq_decide.2 h.1, decide_eq_decide.2 i2]

end Translate

end Coma.Proofs
