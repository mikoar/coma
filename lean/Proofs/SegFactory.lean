import Props.Defs
import Proofs.SortLemmas

/-
  The segment factory (Coma/SegFactory.lean, C13).  `Scan.Inv` is the invariant of the scan loop after `e` scores: the
  current segment and every emitted range are `Good` (C13 (a)–(e)), every emitted range is `Closed` (C13 (f): it could
  not have been extended).  The invariant is one of soundness; towards completeness, a run of positive scores is
  accepted whole (`scanRanges_pos`; the first run in general is in Proofs/FirstRun.lean).
-/
namespace Coma.Proofs.Scan
open Coma.Spec

theorem sumRange_self (s : List Int) (a : Nat) : sumRange s a a = 0 := by
  simp [sumRange, sumInts]

theorem sumRange_split (s : List Int) (a b c : Nat) (hab : a ≤ b) (hbc : b ≤ c) :
    sumRange s a c = sumRange s a b + sumRange s b c := by
  unfold sumRange
  rw [show c - a = (b - a) + (c - b) by omega, List.take_add, sumInts_append, List.drop_drop,
    show a + (b - a) = b by omega]

theorem sumRange_single (s : List Int) (a : Nat) : sumRange s a (a + 1) = s.getD a 0 := by
  unfold sumRange
  rw [Nat.add_sub_cancel_left, List.take_one, List.head?_drop, List.getD_eq_getElem?_getD]
  cases s[a]? with
  | none => rfl
  | some x => exact Int.add_zero x

theorem sumRange_succ (s : List Int) (a b : Nat) (x : Int) (hab : a ≤ b) (hx : s[b]? = some x) :
    sumRange s a (b + 1) = sumRange s a b + x := by
  rw [sumRange_split s a b (b + 1) hab (Nat.le_succ b), sumRange_single s b,
    List.getD_eq_getElem?_getD, hx]
  rfl

/-- C13 (a)–(e) of a single range: `lt`, `le` are (a), `pos_start`, `pos_end` (b), `score_eq` (c) — with `score_pos`
    in place of the `minScore` bound, which only an emitted range has —, `pre` (d), `first` (e) -/
structure Good (scores : List Int) (bst : Int) (r : Rng) : Prop where
  lt : r.start < r.stop
  le : r.stop ≤ scores.length
  pos_start : 0 < scores.getD r.start 0
  pos_end : 0 < scores.getD (r.stop - 1) 0
  score_eq : r.score = sumRange scores r.start r.stop
  score_pos : 0 < r.score
  pre : ∀ k, r.start < k → k ≤ r.stop →
      0 < sumRange scores r.start k ∧
      ∀ j, r.start < j → j < k → sumRange scores r.start j - bst < sumRange scores r.start k
  first : ∀ k, r.start < k → k < r.stop → sumRange scores r.start k < r.score

namespace Good

theorem suffix_pos {s : List Int} {bst : Int} {r : Rng} (g : Good s bst r) (k : Nat) (h1 : r.start ≤ k)
    (h2 : k < r.stop) : 0 < sumRange s k r.stop := by
  have hp : sumRange s r.start k < sumRange s r.start r.stop := by
    rw [← g.score_eq]
    rcases Nat.eq_or_lt_of_le h1 with rfl | h
    · rw [sumRange_self]; exact g.score_pos
    · exact g.first k h h2
  have hs := sumRange_split s r.start k r.stop h1 (Nat.le_of_lt h2)
  omega

end Good

/-- C13 (f) of a single range -/
def Closed (scores : List Int) (bst : Int) (r : Rng) : Prop :=
  ∀ m, r.stop < m → m ≤ scores.length → r.score < sumRange scores r.start m →
    ∃ k, r.stop < k ∧ k < m ∧ sumRange scores r.start k ≤ max 0 (r.score - bst)

/-- The subtlety is in `cur_good`: at a break the Python resets `currentSegment` only if it emits it
    (segments_factory.py:63-66), so a current segment below `minScore` stays while `currentSegmentStart` moves on.
    `cur` is therefore the best prefix of the run being followed (`r.start = st.start`) or such a stale segment of an
    earlier run (`r.score < ms`). -/
structure Inv (scores : List Int) (ms bst : Int) (e : Nat) (st : ScanSt) : Prop where
  start_le : st.start ≤ e
  ext_eq : st.ext = sumRange scores st.start e
  pre : ∀ k, st.start < k → k ≤ e →
      0 < sumRange scores st.start k ∧ sumRange scores st.start k ≤ st.curScore ∧
      ∀ j, st.start < j → j < k → sumRange scores st.start j - bst < sumRange scores st.start k
  cur_nonneg : 0 ≤ st.curScore
  cur_good : ∀ r, st.cur = some r →
      Good scores bst r ∧ r.stop ≤ e ∧ (r.start = st.start ∨ r.score < ms)
  res_good : ∀ r ∈ st.res,
      Good scores bst r ∧ ms ≤ r.score ∧ (0 ≤ bst → Closed scores bst r) ∧ r.stop < st.start
  res_pw : st.res.Pairwise (fun r1 r2 => r1.stop < r2.start)

theorem inv_init (scores : List Int) (ms bst : Int) : Inv scores ms bst 0 {} :=
  ⟨Nat.le_refl 0, (sumRange_self scores 0).symm, fun k (h1 : 0 < k) h2 => absurd h1 (by omega), Int.le_refl 0,
    nofun, nofun, List.Pairwise.nil⟩

theorem flush_cases (ms : Int) (st : ScanSt) :
    (st.flush ms = st ∧ ∀ r, st.cur = some r → r.score < ms) ∨
    ∃ r, st.cur = some r ∧ ms ≤ r.score ∧ st.flush ms = { st with res := st.res ++ [r], cur := none } := by
  unfold ScanSt.flush
  cases st.cur with
  | none => exact .inl ⟨rfl, fun _ h => nomatch h⟩
  | some r =>
    by_cases hm : r.score ≥ ms
    · exact .inr ⟨r, rfl, hm, if_pos hm⟩
    · exact .inl ⟨if_neg hm, fun _ h => Option.some.inj h ▸ Int.not_le.1 hm⟩

theorem flush_emit {ms : Int} {st : ScanSt} {r : Rng} (hc : st.cur = some r) (hm : r.score ≥ ms) :
    st.flush ms = { st with res := st.res ++ [r], cur := none } := by
  simp [ScanSt.flush, hc, hm]

theorem _root_.Coma.Proofs.Translate.flush_start (ms : Int) (st : ScanSt) : (st.flush ms).start = st.start := by
  rcases flush_cases ms st with ⟨h, _⟩ | ⟨_, _, _, h⟩ <;> rw [h]

theorem scanStep_break {ms bst : Int} {st : ScanSt} {e : Nat} {s : Int}
    (h : st.ext + s ≤ max 0 (st.curScore - bst)) :
    scanStep ms bst st e s = { (st.flush ms) with start := e + 1, ext := 0 } := by
  simp [scanStep, h]

theorem scanStep_accept {ms bst : Int} {st : ScanSt} {e : Nat} {s : Int}
    (h : ¬ st.ext + s ≤ max 0 (st.curScore - bst)) (h2 : st.ext + s > st.curScore) :
    scanStep ms bst st e s =
      { st with ext := st.ext + s, cur := some ⟨st.start, e + 1, st.ext + s⟩ } := by
  simp [scanStep, h, h2]

theorem scanStep_plain {ms bst : Int} {st : ScanSt} {e : Nat} {s : Int}
    (h : ¬ st.ext + s ≤ max 0 (st.curScore - bst)) (h2 : ¬ st.ext + s > st.curScore) :
    scanStep ms bst st e s = { st with ext := st.ext + s } := by
  simp [scanStep, h, h2]

theorem inv_ext_le {scores : List Int} {ms bst : Int} {e : Nat} {st : ScanSt}
    (inv : Inv scores ms bst e st) : st.ext ≤ st.curScore := by
  by_cases h : st.start < e
  · rw [inv.ext_eq]; exact (inv.pre e h (Nat.le_refl _)).2.1
  · have : st.start = e := by have := inv.start_le; omega
    rw [inv.ext_eq, this, sumRange_self]; exact inv.cur_nonneg

/-- `H` says that the current segment cannot be extended beyond `e`: vacuous at the end of the list, the break
    condition at a break -/
theorem flush_inv {scores : List Int} {ms bst : Int} {e : Nat} {st : ScanSt}
    (inv : Inv scores ms bst e st)
    (H : 0 ≤ bst → ∀ m, e < m → m ≤ scores.length → st.curScore < sumRange scores st.start m →
      e + 1 < m ∧ sumRange scores st.start (e + 1) ≤ max 0 (st.curScore - bst)) :
    (∀ r ∈ (st.flush ms).res,
        Good scores bst r ∧ ms ≤ r.score ∧ (0 ≤ bst → Closed scores bst r) ∧ r.stop < e + 1) ∧
    (st.flush ms).res.Pairwise (fun r1 r2 => r1.stop < r2.start) ∧
    (∀ r, (st.flush ms).cur = some r → Good scores bst r ∧ r.stop ≤ e ∧ r.score < ms) ∧
    0 ≤ (st.flush ms).curScore := by
  have hres : ∀ r ∈ st.res,
      Good scores bst r ∧ ms ≤ r.score ∧ (0 ≤ bst → Closed scores bst r) ∧ r.stop < e + 1 := by
    intro r hr
    obtain ⟨g, m, c, l⟩ := inv.res_good r hr
    have := inv.start_le
    exact ⟨g, m, c, by omega⟩
  rcases flush_cases ms st with ⟨hf, hlow⟩ | ⟨r, hc, hm, hf⟩
  · rw [hf]
    exact ⟨hres, inv.res_pw, fun r hr => let ⟨g, hstop, _⟩ := inv.cur_good r hr; ⟨g, hstop, hlow r hr⟩, inv.cur_nonneg⟩
  · rw [hf]
    obtain ⟨g, hstop, hlive⟩ := inv.cur_good r hc
    have hcs : st.curScore = r.score := by simp [ScanSt.curScore, hc]
    have hst : r.start = st.start := by omega
    refine ⟨?_, ?_, (fun _ h => nomatch h), Int.le_refl 0⟩
    · intro r' hr'
      simp only [List.mem_append, List.mem_singleton] at hr'
      rcases hr' with hr' | rfl
      · exact hres r' hr'
      · refine ⟨g, hm, ?_, by omega⟩
        intro hb m hm1 hm2 hm3
        rw [hst] at hm3 ⊢
        rw [← hcs] at hm3 ⊢
        by_cases hme : m ≤ e
        · have := (inv.pre m (by have := g.lt; omega) hme).2.1
          omega
        · obtain ⟨h1, h2⟩ := H hb m (by omega) hm2 hm3
          exact ⟨e + 1, by omega, h1, h2⟩
    · simp only [List.pairwise_append]
      refine ⟨inv.res_pw, by simp, ?_⟩
      intro a ha b hb'
      simp only [List.mem_singleton] at hb'
      subst hb'
      have := (inv.res_good a ha).2.2.2
      omega

theorem inv_step {scores : List Int} {ms bst : Int} {e : Nat} {st : ScanSt} {s : Int}
    (inv : Inv scores ms bst e st) (hs : scores[e]? = some s) :
    Inv scores ms bst (e + 1) (scanStep ms bst st e s) := by
  have hlen : e < scores.length := (List.getElem?_eq_some_iff.1 hs).1
  have hstart := inv.start_le
  have hext : sumRange scores st.start (e + 1) = st.ext + s := by
    rw [sumRange_succ scores st.start e s hstart hs, inv.ext_eq]
  have hextle := inv_ext_le inv
  have hc0 := inv.cur_nonneg
  by_cases h : st.ext + s ≤ max 0 (st.curScore - bst)
  · -- break: the pending run is flushed and a new one starts behind `e`
    rw [scanStep_break h]
    -- the break condition is what stops an extension of the current segment (`m = e + 1` itself would be none)
    obtain ⟨f1, f2, f3, f4⟩ := flush_inv (ms := ms) inv fun _ m hm1 _ hm3 => by
      rw [hext]
      refine ⟨?_, h⟩
      by_cases hm : m = e + 1
      · subst hm; rw [hext] at hm3; omega
      · omega
    refine ⟨Nat.le_refl _, (sumRange_self scores (e + 1)).symm, fun k (hk1 : e + 1 < k) hk2 => absurd hk1 (by omega),
      f4, fun r hr => ?_, f1, f2⟩
    obtain ⟨g, h1, h2⟩ := f3 r hr
    exact ⟨g, by omega, Or.inr h2⟩
  · -- the run goes on: the prefix facts at `e + 1`, for any new best `c` that is at least the old one and the new sum
    have P : ∀ c, st.curScore ≤ c → st.ext + s ≤ c → ∀ k, st.start < k → k ≤ e + 1 →
        0 < sumRange scores st.start k ∧ sumRange scores st.start k ≤ c ∧
        ∀ j, st.start < j → j < k → sumRange scores st.start j - bst < sumRange scores st.start k := by
      intro c hc1 hc2 k hk1 hk2
      by_cases hk : k = e + 1
      · subst hk
        rw [hext]
        refine ⟨by omega, hc2, fun j hj1 hj2 => ?_⟩
        have := (inv.pre j hj1 (by omega)).2.1
        omega
      · obtain ⟨p1, p2, p3⟩ := inv.pre k hk1 (by omega)
        exact ⟨p1, by omega, p3⟩
    by_cases h2 : st.ext + s > st.curScore
    · -- a new best: the current segment now ends behind `e`
      rw [scanStep_accept h h2]
      have P' := P (st.ext + s) (by omega) (Int.le_refl _)
      refine ⟨(by omega : st.start ≤ e + 1), hext.symm, P', (by omega : 0 ≤ st.ext + s), fun r hr => ?_,
        inv.res_good, inv.res_pw⟩
      obtain rfl : Rng.mk st.start (e + 1) (st.ext + s) = r := Option.some.inj hr
      refine ⟨⟨(by omega : st.start < e + 1), (by omega : e + 1 ≤ scores.length), ?_, ?_, hext.symm,
        (by omega : 0 < st.ext + s), fun k hk1 hk2 => ⟨(P' k hk1 hk2).1, (P' k hk1 hk2).2.2⟩, fun k hk1 hk2 => ?_⟩,
        Nat.le_refl _, Or.inl rfl⟩
      · show 0 < scores.getD st.start 0
        rw [← sumRange_single scores st.start]
        exact (P' _ (by omega) (by omega)).1
      · show 0 < scores.getD (e + 1 - 1) 0
        rw [Nat.add_sub_cancel, List.getD_eq_getElem?_getD, hs, Option.getD_some]; omega
      · have := (inv.pre k hk1 (Nat.le_of_lt_succ hk2)).2.1
        show sumRange scores st.start k < st.ext + s
        omega
    · -- no new best
      rw [scanStep_plain h h2]
      refine ⟨(by omega : st.start ≤ e + 1), hext.symm, P st.curScore (Int.le_refl _) (by omega), inv.cur_nonneg,
        fun r hr => ?_, inv.res_good, inv.res_pw⟩
      obtain ⟨g, h1, h3⟩ := inv.cur_good r hr
      exact ⟨g, by omega, h3⟩

theorem inv_scanFrom {scores : List Int} {ms bst : Int} :
    ∀ (rest : List Int) (e : Nat) (st : ScanSt), Inv scores ms bst e st →
      e ≤ scores.length → scores.drop e = rest →
      Inv scores ms bst scores.length (scanFrom ms bst st e rest) := by
  intro rest
  induction rest with
  | nil =>
    intro e st inv hle hd
    have h1 : scores.length ≤ e := List.drop_eq_nil_iff.mp hd
    have h2 : e = scores.length := by omega
    subst h2
    exact inv
  | cons s ss ih =>
    intro e st inv hle hd
    have hs : scores[e]? = some s := by
      have := List.getElem?_drop (xs := scores) (i := e) (j := 0)
      rw [hd] at this
      simpa using this.symm
    have hlt : e < scores.length := (List.getElem?_eq_some_iff.1 hs).1
    have hd' : scores.drop (e + 1) = ss := by
      rw [List.drop_add_one_eq_tail_drop, hd]; rfl
    exact ih (e + 1) _ (inv_step inv hs) hlt hd'

theorem scan_all (ms bst : Int) (scores : List Int) :
    (∀ r ∈ scanRanges ms bst scores,
        Good scores bst r ∧ ms ≤ r.score ∧ (0 ≤ bst → Closed scores bst r)) ∧
    (scanRanges ms bst scores).Pairwise (fun r1 r2 => r1.stop < r2.start) := by
  have inv := inv_scanFrom (ms := ms) (bst := bst) scores 0 {} (inv_init scores ms bst) (Nat.zero_le _) rfl
  -- at the end of the list nothing lies behind the current segment
  obtain ⟨f1, f2, _, _⟩ := flush_inv (ms := ms) inv fun _ m h1 h2 _ => absurd h2 (Nat.not_le_of_gt h1)
  exact ⟨fun r hr => let ⟨g, h1, h2, _⟩ := f1 r hr; ⟨g, h1, h2⟩, f2⟩

theorem scanFrom_pos (ms bst : Int) (hb : 0 ≤ bst) : ∀ (xs : List Int) (x : Int) (st : ScanSt) (e : Nat),
    0 < x → (∀ y ∈ xs, 0 < y) → st.ext = st.curScore → 0 ≤ st.ext →
    scanFrom ms bst st e (x :: xs) =
      { st with ext := st.ext + sumInts (x :: xs),
                cur := some ⟨st.start, e + (xs.length + 1), st.ext + sumInts (x :: xs)⟩ } := by
  intro xs
  induction xs with
  | nil =>
    intro x st e hx _ h1 h2
    rw [scanFrom, scanFrom, scanStep_accept (by omega) (by omega)]
    simp [sumInts]
  | cons y ys ih =>
    intro x st e hx hys h1 h2
    rw [scanFrom, scanStep_accept (by omega) (by omega),
      ih y _ _ (hys y List.mem_cons_self) (fun z hz => hys z (List.mem_cons_of_mem _ hz)) rfl
        (by show 0 ≤ st.ext + x; omega)]
    simp only [sumInts, List.length_cons, Int.add_assoc, Nat.add_assoc, Nat.add_comm 1]

theorem scanRanges_pos (ms bst : Int) (hb : 0 ≤ bst) (x : Int) (xs : List Int) (hx : 0 < x) (hxs : ∀ y ∈ xs, 0 < y)
    (hms : ms ≤ sumInts (x :: xs)) :
    scanRanges ms bst (x :: xs) = [⟨0, xs.length + 1, sumInts (x :: xs)⟩] := by
  unfold scanRanges
  rw [scanFrom_pos ms bst hb xs x {} 0 hx hxs rfl (Int.le_refl 0), flush_emit rfl (by simpa using hms)]
  simp

end Coma.Proofs.Scan

namespace Coma.Proofs
open Coma.Spec Coma.Proofs.Scan

theorem sumScores_eq_sumInts (P : Params) (l : List APos) :
    sumScores P l = sumInts (l.map (APos.score P)) := by
  induction l with
  | nil => rfl
  | cons a as ih => simp [sumScores, sumInts, ih]

theorem sumScores_run (P : Params) (xs : List APos) (k stop : Nat) :
    sumScores P ((xs.drop k).take (stop - k)) = sumRange (xs.map (APos.score P)) k stop := by
  rw [sumScores_eq_sumInts]
  simp only [sumRange, List.map_take, List.map_drop]

theorem mem_getSegments {P : Params} {peak : Int} {xs : List APos} {s : Seg}
    (h : s ∈ getSegments P peak xs) :
    s = ⟨peak, []⟩ ∨ ∃ r ∈ scanRanges P.minScore P.bst (xs.map (APos.score P)),
      s = ⟨peak, (xs.drop r.start).take (r.stop - r.start)⟩ := by
  unfold getSegments at h
  split at h
  · exact Or.inl (List.mem_singleton.1 h)
  · obtain ⟨r, hr, rfl⟩ := List.mem_map.1 h
    exact Or.inr ⟨r, hr, rfl⟩

theorem scoreAll?_ne_none (P : Params) (hsu : P.su ≤ 0) (xs : List APos) : scoreAll? P xs ≠ none := by
  have hd : decide (P.su > 0) = false := decide_eq_false (by omega)
  unfold scoreAll?
  rw [hd, Bool.false_and, if_neg Bool.false_ne_true]
  exact Option.some_ne_none _

/-- an unpaired position scores `su`, and where that is positive `scoreAll?` raises -/
theorem pos_score_pair (P : Params) (xs : List APos) (hsc : scoreAll? P xs ≠ none) (i : Nat)
    (h : 0 < (xs.map (APos.score P)).getD i 0) : ∃ p, xs[i]? = some (.pair p) := by
  have hun : ∀ a ∈ xs, a.isPair = false → ¬ 0 < P.su := fun a ha hp hsu => hsc (by
    unfold scoreAll?
    rw [if_pos]
    simp only [Bool.and_eq_true, decide_eq_true_eq, List.any_eq_true]
    exact ⟨hsu, a, ha, by rw [hp]; rfl⟩)
  rw [List.getD_eq_getElem?_getD, List.getElem?_map] at h
  cases hx : xs[i]? with
  | none => rw [hx] at h; exact absurd h (Int.lt_irrefl 0)
  | some a =>
    rw [hx] at h
    cases a with
    | pair p => exact ⟨p, rfl⟩
    | uref r => exact absurd h (hun _ (List.mem_of_getElem? hx) rfl)
    | uqry q s => exact absurd h (hun _ (List.mem_of_getElem? hx) rfl)

theorem mem_getSegments_run {P : Params} {peak : Int} {xs : List APos} (hsc : scoreAll? P xs ≠ none) {s : Seg}
    (h : s ∈ getSegments P peak xs) :
    s = ⟨peak, []⟩ ∨ ∃ r p1 p2, Good (xs.map (APos.score P)) P.bst r ∧ r.stop ≤ xs.length ∧
      s = ⟨peak, (xs.drop r.start).take (r.stop - r.start)⟩ ∧
      s.items.head? = some (.pair p1) ∧ s.items.getLast? = some (.pair p2) := by
  rcases mem_getSegments h with rfl | ⟨r, hr, rfl⟩
  · exact Or.inl rfl
  · have g := ((scan_all P.minScore P.bst _).1 r hr).1
    have hle : r.stop ≤ xs.length := by have := g.le; rwa [List.length_map] at this
    obtain ⟨p1, hp1⟩ := pos_score_pair P xs hsc _ g.pos_start
    obtain ⟨p2, hp2⟩ := pos_score_pair P xs hsc _ g.pos_end
    exact Or.inr ⟨r, p1, p2, g, hle, rfl, (run_head xs _ _ g.lt).trans hp1, (run_last xs _ _ g.lt hle).trans hp2⟩

theorem getSegments_of_pos (P : Params) (hb : 0 ≤ P.bst) (peak : Int) (xs : List APos) (hne : xs ≠ [])
    (hpos : ∀ a ∈ xs, 0 < a.score P) (hms : P.minScore ≤ sumScores P xs) :
    getSegments P peak xs = [⟨peak, xs⟩] := by
  rw [sumScores_eq_sumInts] at hms
  cases xs with
  | nil => exact absurd rfl hne
  | cons a t =>
    unfold getSegments
    rw [List.map_cons, scanRanges_pos _ _ hb _ _ (hpos a List.mem_cons_self)
      (fun y hy => by obtain ⟨b, hb, rfl⟩ := List.mem_map.1 hy; exact hpos b (List.mem_cons_of_mem _ hb)) hms]
    simp

end Coma.Proofs
