import Proofs.Peaks
import Proofs.CopySeed_Runs
import Proofs.Labels

/- From the model to the label-level description of `CopySeed_Runs`, at the default resolution and blur.  `Geo` describes
   the reference vector of the refinement window and the vector of an exact copy: the run of query label `j` is centred at
   `qb j`, the run of the reference label it copies `rb i` or `rb i + 1` bins later (`Geo.pairs`); in the reversed vector
   of the mirror image of the copy the run of label `j` is centred at `xb j ∈ {qb j, qb j + 1}` (`Geo.pairs_rev`). -/
namespace Coma.Proofs.CopySeed
open Coma.Spec Coma.Proofs.Vector

def binOf (start p : Int) : Nat := ((p - start) / 100).toNat

theorem binOf_spec {s a : Int} (h : s ≤ a) : s + binOf s a * 100 ≤ a ∧ a < s + (binOf s a + 1) * 100 :=
  bin_spec s 100 a (by decide) h

theorem bins_far (a b s : Int) (hs : s ≤ a) (h : a + 2000 ≤ b) : binOf s a + 20 ≤ binOf s b := by
  have := binOf_spec hs
  have := binOf_spec (Int.le_trans hs (Int.le_trans (Int.le_add_of_nonneg_right (by decide)) h))
  omega

theorem bins_add (a p s : Int) (hs : s ≤ p) (hp : p ≤ a) :
    binOf p a + binOf s p ≤ binOf s a ∧ binOf s a ≤ binOf p a + binOf s p + 1 := by
  have := binOf_spec hs
  have := binOf_spec hp
  have := binOf_spec (Int.le_trans hs hp)
  omega

theorem toBp_near (p : Nat) (a s : Int) (hs : s ≤ a) (h1 : binOf s a ≤ p + 1) (h2 : p ≤ binOf s a + 1) :
    toBp (p : Int) 100 s - a ≤ 200 ∧ a - toBp (p : Int) 100 s ≤ 200 := by
  have := binOf_spec hs
  simp only [toBp]
  omega

theorem seq_spec (ps : List Int) (start : Int) (stop? : Option Int) (v : List Nat)
    (hs : Ascending ps) (h : sequenceOf 100 4 ps start stop? = .ok v) :
    v.length = (vecGo 100 (stopEff' ps stop?) start ps).length ∧
    (∀ p ∈ ps, start ≤ p → p ≤ stopEff' ps stop? → binOf start p < v.length) ∧
    ∀ y, y < v.length → (v.getD y 0 = 1 ∨ v.getD y 0 = 0) ∧
      (v.getD y 0 = 1 ↔ ∃ p ∈ ps, start ≤ p ∧ binOf start p < v.length ∧
          y ≤ binOf start p + 4 ∧ binOf start p ≤ y + 4) := by
  obtain ⟨_, hlen, hb⟩ := Peaks.sequenceOf_spec 100 4 ps start stop? v hs h
  refine ⟨hlen, fun p hp h1 h2 => ?_, fun y hy => ?_⟩
  · rw [hlen, binOf]
    exact (vecGo_spec 100 _ (by decide) ps start).2.1 p hp _ (bin_spec start 100 p (by decide) h1).1 (Or.inr (by omega))
  · refine ⟨(hb y hy).1, (hb y hy).2.trans ?_⟩
    simp only [binOf]
    constructor <;> rintro ⟨p, hp, h1, h2, h3, h4⟩ <;> exact ⟨p, hp, h1, h2, by omega, by omega⟩

theorem seq_length (ps : List Int) (l : Int) (v : List Nat) (hs : Ascending ps) (hl : ps.getLast? = some l)
    (h0 : 0 ≤ l) (h : sequenceOf 100 4 ps 0 none = .ok v) : v.length = (l / 100).toNat + 1 := by
  have hstop : stopEff' ps none = l := by simp [stopEff', hl]
  rw [(seq_spec ps 0 none v hs h).1, hstop, vecGo_length 100 _ (by omega) ps 0 _ hs
    (fun p hp => mem_le_last ps _ hs hl p hp) hl, if_neg (by omega), Int.sub_zero]

theorem getD_ge (v : List Nat) (y : Nat) (h : v.length ≤ y) : v.getD y 0 = 0 := getD_of_length_le v h

/-- bin of the `j`-th query label -/
def qb (P : Nat → Int) (i j : Nat) : Nat := ((P (i + j) - P i) / 100).toNat
/-- bin of the `m`-th reference label in the window starting at `start` -/
def rb (P : Nat → Int) (start : Int) (m : Nat) : Nat := ((P m - start) / 100).toNat

/-- The two vectors of an exact copy, in bins: `P m` is the coordinate of reference label `m` (of `N`), the query is the
    copy of the labels `i … i + n - 1`, the refinement window starts at `start`.
    `inside`: the label after the copy, `i + n`, exists;  `gaps`: reference labels are 2000 bp (20 bins) apart;
    `hstart`: the window starts 500 bp (5 bins) before the first copied label;
    `qlen`, `qbit`: the query vector ends with the bin of its last label and has a run around the bin `qb j` of each;
    `rlen`: the bin of label `i + n` lies in the reference vector;
    `rbit`: it has a run around the bin `rb m` of each label at or after `start` whose bin lies in it. -/
structure Geo (P : Nat → Int) (N i n : Nat) (start : Int) (qv rv : List Nat) : Prop where
  many  : 2 ≤ n
  inside : i + n < N
  gaps  : ∀ m m', m < m' → m' < N → P m + 2000 ≤ P m'
  hstart : start + 500 ≤ P i
  qlen  : qv.length = qb P i (n - 1) + 1
  qbit  : ∀ x, x < qv.length → (qv.getD x 0 = 1 ∨ qv.getD x 0 = 0) ∧
            (qv.getD x 0 = 1 ↔ ∃ j, j < n ∧ x ≤ qb P i j + 4 ∧ qb P i j ≤ x + 4)
  rlen  : rb P start (i + n) < rv.length
  rbit  : ∀ y, y < rv.length → (rv.getD y 0 = 1 ∨ rv.getD y 0 = 0) ∧
            (rv.getD y 0 = 1 ↔ ∃ m, m < N ∧ start ≤ P m ∧ rb P start m < rv.length ∧
              y ≤ rb P start m + 4 ∧ rb P start m ≤ y + 4)

/-- bin of the mirror image of the `j`-th query label in the vector of the mirror image -/
def mb (P : Nat → Int) (i n j : Nat) : Nat := ((P (i + (n - 1)) - P (i + j)) / 100).toNat
/-- centre of the run of the `j`-th query label in the reversed vector of the mirror image -/
def xb (P : Nat → Int) (i n j : Nat) : Nat := qb P i (n - 1) - mb P i n j

section
variable {P : Nat → Int} {N i n : Nat} {start : Int} {qv rv : List Nat}

theorem mono_of_gaps (hg : ∀ m m', m < m' → m' < N → P m + 2000 ≤ P m') {m m' : Nat} (h : m ≤ m') (h' : m' < N) :
    P m ≤ P m' := by
  rcases Nat.eq_or_lt_of_le h with rfl | hlt
  · exact Int.le_refl _
  · have := hg m m' hlt h'
    omega

namespace Geo

theorem mono (G : Geo P N i n start qv rv) {m m' : Nat} (h : m ≤ m') (h' : m' < N) : P m ≤ P m' :=
  mono_of_gaps G.gaps h h'

theorem start_le (G : Geo P N i n start qv rv) {j : Nat} (hj : j < n) : start ≤ P (i + j) := by
  have h1 := G.hstart
  have h2 := G.mono (Nat.le_add_right i j) (by have := G.inside; omega)
  omega

theorem rb_first (G : Geo P N i n start qv rv) : 5 ≤ rb P start i := by
  have h := G.hstart
  have := binOf_spec (s := start) (a := P i) (by omega)
  show 5 ≤ binOf start (P i)
  omega

theorem qb_far (G : Geo P N i n start qv rv) {j j' : Nat} (hjj : j < j') (hj' : j' < n) :
    qb P i j + 20 ≤ qb P i j' :=
  bins_far _ _ _ (G.mono (Nat.le_add_right i j) (by have := G.inside; omega))
    (G.gaps (i + j) (i + j') (by omega) (by have := G.inside; omega))

theorem qb_lt (G : Geo P N i n start qv rv) {j : Nat} (hj : j < n) : qb P i j < qv.length := by
  have hin := G.inside
  have : binOf (P (i + j)) (P (i + (n - 1))) + qb P i j ≤ qb P i (n - 1) :=
    (bins_add _ _ _ (G.mono (Nat.le_add_right i j) (by omega)) (G.mono (by omega) (by omega))).1
  rw [G.qlen]
  omega

theorem rb_qb (G : Geo P N i n start qv rv) {j : Nat} (hj : j < n) :
    qb P i j + rb P start i ≤ rb P start (i + j) ∧ rb P start (i + j) ≤ qb P i j + rb P start i + 1 :=
  bins_add _ _ _ (by have := G.hstart; omega) (G.mono (Nat.le_add_right i j) (by have := G.inside; omega))

theorem rb_lt (G : Geo P N i n start qv rv) {j : Nat} (hj : j < n) : rb P start (i + j) + 20 < rv.length := by
  have h1 : rb P start (i + j) + 20 ≤ rb P start (i + n) :=
    bins_far _ _ _ (G.start_le hj) (G.gaps (i + j) (i + n) (by omega) G.inside)
  have h2 := G.rlen
  omega

theorem klen (G : Geo P N i n start qv rv) : rb P start i + 20 + qv.length ≤ rv.length := by
  have hn := G.many
  have h1 := (G.rb_qb (j := n - 1) (by omega)).1
  have h2 := G.rb_lt (j := n - 1) (by omega)
  have h3 := G.qlen
  omega

theorem near (G : Geo P N i n start qv rv) {j : Nat} (hj : j < n) (y : Nat)
    (hy1 : y ≤ rb P start (i + j) + 8) (hy2 : rb P start (i + j) ≤ y + 8) :
    (rv.getD y 0 = 1 ∨ rv.getD y 0 = 0) ∧
    (rv.getD y 0 = 1 ↔ (y ≤ rb P start (i + j) + 4 ∧ rb P start (i + j) ≤ y + 4)) := by
  have hlen := G.rb_lt hj
  have hsj := G.start_le hj
  have hin := G.inside
  obtain ⟨hb, hiff⟩ := G.rbit y (by omega)
  refine ⟨hb, hiff.trans ⟨?_, ?_⟩⟩
  · rintro ⟨m, hm, hsm, _, hm1, hm2⟩
    rcases Nat.lt_trichotomy m (i + j) with hlt | heq | hgt
    · have h : rb P start m + 20 ≤ rb P start (i + j) := bins_far _ _ _ hsm (G.gaps m (i + j) hlt (by omega))
      omega
    · subst heq; exact ⟨hm1, hm2⟩
    · have h : rb P start (i + j) + 20 ≤ rb P start m := bins_far _ _ _ hsj (G.gaps (i + j) m hgt hm)
      omega
  · rintro ⟨h1, h2⟩
    exact ⟨i + j, by omega, hsj, by omega, h1, h2⟩

theorem pairs (G : Geo P N i n start qv rv) :
    RunPairs (qb P i) (fun j => rb P start (i + j)) n qv rv where
  runs := G.qbit
  sep := fun j j' hjj hj' => by have := G.qb_far hjj hj'; omega
  inside := fun _ hj => G.qb_lt hj
  near := fun _ hj => G.near hj

theorem xb_qb (G : Geo P N i n start qv rv) {j : Nat} (hj : j < n) :
    mb P i n j ≤ qb P i (n - 1) ∧ qb P i j ≤ xb P i n j ∧ xb P i n j ≤ qb P i j + 1 := by
  have hin := G.inside
  have : mb P i n j + qb P i j ≤ qb P i (n - 1) ∧ qb P i (n - 1) ≤ mb P i n j + qb P i j + 1 :=
    bins_add _ _ _ (G.mono (Nat.le_add_right i j) (by omega)) (G.mono (by omega) (by omega))
  unfold xb
  omega

/-- reverse strand: `qr` is the reversed vector of the mirror image -/
theorem pairs_rev (G : Geo P N i n start qv rv) {qr : List Nat} (hlen : qr.length = qb P i (n - 1) + 1)
    (hr : Runs (xb P i n) n qr) : RunPairs (xb P i n) (fun j => rb P start (i + j)) n qr rv where
  runs := hr
  sep := fun j j' hjj hj' => by
    have h1 := G.qb_far hjj hj'
    have h2 := G.xb_qb (show j < n by omega)
    have h3 := G.xb_qb hj'
    omega
  inside := fun j _ => by rw [hlen]; unfold xb; omega
  near := fun _ hj => G.near hj

end Geo

end

section
variable {R Q : List Int} {i n : Nat}

theorem copy_length (hQ : Q = ((R.drop i).take n).map (fun p => p - R.getD i 0)) (hin : i + n ≤ R.length) :
    Q.length = n := by
  subst hQ
  simp; omega

theorem copy_getD (hQ : Q = ((R.drop i).take n).map (fun p => p - R.getD i 0)) (hin : i + n ≤ R.length)
    {j : Nat} (hj : j < n) : Q.getD j 0 = R.getD (i + j) 0 - R.getD i 0 := by
  subst hQ
  have h : i + j < R.length := by omega
  simp [List.getD_eq_getElem?_getD, hj, List.getElem?_drop, List.getElem?_eq_getElem h]

theorem copy_mem (hQ : Q = ((R.drop i).take n).map (fun p => p - R.getD i 0)) (hin : i + n ≤ R.length) (p : Int) :
    p ∈ Q ↔ ∃ j, j < n ∧ p = R.getD (i + j) 0 - R.getD i 0 := by
  rw [mem_iff_getD 0, copy_length hQ hin]
  constructor
  · rintro ⟨j, hj, rfl⟩; exact ⟨j, hj, copy_getD hQ hin hj⟩
  · rintro ⟨j, hj, rfl⟩; exact ⟨j, hj, (copy_getD hQ hin hj).symm⟩

theorem copy_getLast (hQ : Q = ((R.drop i).take n).map (fun p => p - R.getD i 0)) (hin : i + n ≤ R.length)
    (hn : 1 ≤ n) : Q.getLast? = some (R.getD (i + (n - 1)) 0 - R.getD i 0) := by
  have hlen := copy_length hQ hin
  have hlt : n - 1 < Q.length := by omega
  rw [List.getLast?_eq_getElem?, hlen, List.getElem?_eq_getElem hlt, List.getElem_eq_getD 0,
    copy_getD hQ hin (by omega)]

theorem copy_head (hQ : Q = ((R.drop i).take n).map (fun p => p - R.getD i 0)) (hin : i + n ≤ R.length)
    (hn : 1 ≤ n) : Q.head? = some 0 := by
  have hlt : 0 < Q.length := by rw [copy_length hQ hin]; omega
  rw [List.head?_eq_getElem?, List.getElem?_eq_getElem hlt, List.getElem_eq_getD 0, copy_getD hQ hin (by omega)]
  simp

theorem copy_sorted (hQ : Q = ((R.drop i).take n).map (fun p => p - R.getD i 0))
    (hgaps : R.Pairwise (fun a b => a + 2000 ≤ b)) : Ascending Q := by
  subst hQ
  exact ((hgaps.sublist (List.drop_sublist i R)).sublist (List.take_sublist n _)).map _ (fun a b h => by omega)

end

theorem seq_runs (ps : List Int) (f : Nat → Int) (n : Nat) (l : Int) (v : List Nat) (hs : Ascending ps)
    (hmem : ∀ p, p ∈ ps ↔ ∃ j, j < n ∧ p = f j) (hl : ps.getLast? = some l) (h0 : ∀ j, j < n → 0 ≤ f j)
    (h : sequenceOf 100 4 ps 0 none = .ok v) :
    v.length = (l / 100).toNat + 1 ∧ Runs (fun j => (f j / 100).toNat) n v := by
  obtain ⟨j0, hj0, hlj⟩ := (hmem l).mp (List.mem_of_getLast? hl)
  have hlen := seq_length ps l v hs hl (hlj ▸ h0 j0 hj0) h
  obtain ⟨_, _, hb⟩ := seq_spec ps 0 none v hs h
  refine ⟨hlen, fun x hx => ⟨(hb x hx).1, (hb x hx).2.trans ?_⟩⟩
  simp only [binOf, Int.sub_zero]
  constructor
  · rintro ⟨p, hp, _, _, h3, h4⟩
    obtain ⟨j, hj, rfl⟩ := (hmem p).mp hp
    exact ⟨j, hj, h3, h4⟩
  · rintro ⟨j, hj, h3, h4⟩
    have hp := (hmem _).mpr ⟨j, hj, rfl⟩
    have hle := mem_le_last ps l hs hl (f j) hp
    exact ⟨f j, hp, h0 j hj, by rw [hlen]; omega, h3, h4⟩

theorem geo_of (R Q : List Int) (i n : Nat) (start stop : Int) (qv rv : List Nat)
    (hn : 2 ≤ n) (hgaps : R.Pairwise (fun a b => a + 2000 ≤ b)) (hin : i + n < R.length)
    (hQ : Q = ((R.drop i).take n).map (fun p => p - R.getD i 0))
    (hstart : start + 500 ≤ R.getD i 0) (hnext : R.getD (i + n) 0 ≤ stop) (hstop : stop ≠ 0)
    (hq : sequenceOf 100 4 Q 0 none = .ok qv) (hr : sequenceOf 100 4 R start (some stop) = .ok rv) :
    Geo (fun m => R.getD m 0) R.length i n start qv rv := by
  have hg : ∀ m m', m < m' → m' < R.length → R.getD m 0 + 2000 ≤ R.getD m' 0 :=
    fun m m' h1 h2 => pairwise_getD 0 R _ hgaps m m' h1 h2
  obtain ⟨hqlen, hqbit⟩ := seq_runs Q (fun j => R.getD (i + j) 0 - R.getD i 0) n _ qv (copy_sorted hQ hgaps)
    (copy_mem hQ (Nat.le_of_lt hin)) (copy_getLast hQ (Nat.le_of_lt hin) (by omega))
    (fun j hj => by have := mono_of_gaps hg (Nat.le_add_right i j) (show i + j < R.length by omega); omega) hq
  obtain ⟨_, hrlost, hrb⟩ := seq_spec R start (some stop) rv (hgaps.imp (fun h => by omega)) hr
  have hstopr : stopEff' R (some stop) = stop := by
    simp [stopEff', hstop]
  refine ⟨hn, hin, hg, hstart, hqlen, hqbit, ?_, fun y hy => ⟨(hrb y hy).1, (hrb y hy).2.trans ⟨?_, ?_⟩⟩⟩
  · exact hrlost (R.getD (i + n) 0) ((mem_iff_getD 0 R _).mpr ⟨i + n, hin, rfl⟩)
      (by have := hg i (i + n) (by omega) hin; omega) (by rw [hstopr]; exact hnext)
  · rintro ⟨p, hp, h⟩
    obtain ⟨m, hm, rfl⟩ := (mem_iff_getD 0 R p).mp hp
    exact ⟨m, hm, h⟩
  · rintro ⟨m, hm, h⟩
    exact ⟨_, (mem_iff_getD 0 R _).mpr ⟨m, hm, rfl⟩, h⟩

/-- the mirror image of label `j` falls into bin `mb j` of a vector as long as that of the copy, which the reversal turns
    into `xb j` -/
theorem revq_of (R Q : List Int) (i n : Nat) (len : Int) (mv : List Nat)
    (hn : 2 ≤ n) (hgaps : R.Pairwise (fun a b => a + 2000 ≤ b)) (hin : i + n < R.length)
    (hQ : Q = ((R.drop i).take n).map (fun p => p - R.getD i 0))
    (hlen : len = lastD 0 Q + 1)
    (hm : sequenceOf 100 4 ((Q.map (fun p => len - 1 - p)).reverse) 0 none = .ok mv) :
    mv.reverse.length = qb (fun m => R.getD m 0) i (n - 1) + 1 ∧ Runs (xb (fun m => R.getD m 0) i n) n mv.reverse := by
  have hg : ∀ m m', m < m' → m' < R.length → R.getD m 0 + 2000 ≤ R.getD m' 0 :=
    fun m m' h1 h2 => pairwise_getD 0 R _ hgaps m m' h1 h2
  have hmono : ∀ j, j < n → R.getD i 0 ≤ R.getD (i + j) 0 ∧ R.getD (i + j) 0 ≤ R.getD (i + (n - 1)) 0 :=
    fun j hj => ⟨mono_of_gaps hg (Nat.le_add_right i j) (by omega), mono_of_gaps hg (by omega) (by omega)⟩
  have hQmem := copy_mem hQ (Nat.le_of_lt hin)
  have hl1 : len - 1 = R.getD (i + (n - 1)) 0 - R.getD i 0 := by
    rw [hlen, lastD_eq, copy_getLast hQ (Nat.le_of_lt hin) (by omega)]
    simp
  -- the mirror image as a family: label `j` of the copy lies at `R[i + n - 1] - R[i + j]`
  have hMasc : Ascending (Q.map (fun p => len - 1 - p)).reverse := by
    rw [Ascending, List.pairwise_reverse, List.pairwise_map]
    exact (copy_sorted hQ hgaps).imp (fun h => by omega)
  have hMmem : ∀ p, p ∈ (Q.map (fun p => len - 1 - p)).reverse ↔
      ∃ j, j < n ∧ p = R.getD (i + (n - 1)) 0 - R.getD (i + j) 0 := by
    intro p
    rw [List.mem_reverse, List.mem_map]
    constructor
    · rintro ⟨a, ha, rfl⟩
      obtain ⟨j, hj, rfl⟩ := (hQmem a).mp ha
      exact ⟨j, hj, by omega⟩
    · rintro ⟨j, hj, rfl⟩
      exact ⟨_, (hQmem _).mpr ⟨j, hj, rfl⟩, by omega⟩
  have hMlast : (Q.map (fun p => len - 1 - p)).reverse.getLast? = some (R.getD (i + (n - 1)) 0 - R.getD i 0) := by
    rw [List.getLast?_reverse, List.head?_map, copy_head hQ (Nat.le_of_lt hin) (by omega)]
    simp [hl1]
  obtain ⟨hmlen, hruns⟩ := seq_runs _ (fun j => R.getD (i + (n - 1)) 0 - R.getD (i + j) 0) n _ mv hMasc hMmem hMlast
    (fun j hj => by have := (hmono j hj).2; omega) hm
  refine ⟨by rw [List.length_reverse]; exact hmlen, hruns.reverse _ hmlen fun j hj => ?_⟩
  exact Nat.le_trans (Nat.le_add_right _ _) (bins_add _ _ _ (hmono j hj).1 (hmono j hj).2).1

end Coma.Proofs.CopySeed
