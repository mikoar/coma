import Proofs.SegFactory

/-
  C13, completeness for the first run of a position list.  The harness oracle (`oracle_segs`, clause (g)) says: from the
  first positive score on, follow the running sum until the first break (sum ≤ 0, or sum ≤ running maximum − threshold);
  if the maximum reached before that break is at least `minScore`, that run must be the first segment reported.
  `firstRun` is that specification as an executable function; the scan agrees: over the leading non-positive scores it
  only moves its start, then scan state and `firstRunGo` move in lockstep, and a range once emitted stays the first.
-/
namespace Coma.Proofs

/-- follow the running sum from position `k` (sum so far `acc`, maximum so far `best` reached at end index `arg`) -/
def firstRunGo (bst : Int) : (k : Nat) → (acc best : Int) → (arg : Nat) → List Int → Int × Nat
  | _, _, best, arg, []      => (best, arg)
  | k, acc, best, arg, s :: ss =>
    let acc' := acc + s
    if acc' ≤ max 0 (best - bst) then (best, arg)
    else if acc' > best then firstRunGo bst (k + 1) acc' acc' (k + 1) ss
    else firstRunGo bst (k + 1) acc' best arg ss

/-- the first qualifying run: start = index of the first positive score, stop / score = where the running maximum
    before the first break is reached; `none` if that maximum is below `minScore` (or there is no positive score) -/
def firstRun (ms bst : Int) (scores : List Int) : Option Rng :=
  let i0 := (scores.takeWhile (· ≤ 0)).length
  match scores.drop i0 with
  | []      => none
  | s :: ss =>
    let (best, arg) := firstRunGo bst (i0 + 1) s s (i0 + 1) ss
    if ms ≤ best then some ⟨i0, arg, best⟩ else none

theorem flush_res_head (ms : Int) (st : ScanSt) (x : Rng) (h : st.res.head? = some x) :
    (st.flush ms).res.head? = some x := by
  rcases Scan.flush_cases ms st with ⟨hf, _⟩ | ⟨r, _, _, hf⟩
  · rw [hf]; exact h
  · rw [hf]
    show (st.res ++ [r]).head? = _
    rw [List.head?_append, h]; rfl

theorem scanStep_res_head (ms bst : Int) (st : ScanSt) (e : Nat) (s : Int) (x : Rng)
    (h : st.res.head? = some x) : (scanStep ms bst st e s).res.head? = some x := by
  unfold scanStep
  simp only
  split
  · exact flush_res_head ms st x h
  · split <;> exact h

theorem scanFrom_res_head (ms bst : Int) (x : Rng) : ∀ (l : List Int) (st : ScanSt) (e : Nat),
    st.res.head? = some x → (scanFrom ms bst st e l).res.head? = some x := by
  intro l
  induction l with
  | nil => intro st e h; exact h
  | cons s ss ih => intro st e h; exact ih _ _ (scanStep_res_head ms bst st e s x h)

theorem scanFrom_append (ms bst : Int) : ∀ (l1 l2 : List Int) (st : ScanSt) (e : Nat),
    scanFrom ms bst st e (l1 ++ l2) = scanFrom ms bst (scanFrom ms bst st e l1) (e + l1.length) l2 := by
  intro l1
  induction l1 with
  | nil => intro l2 st e; rfl
  | cons s ss ih =>
    intro l2 st e
    show scanFrom ms bst (scanStep ms bst st e s) (e + 1) (ss ++ l2) = _
    rw [ih]
    have : e + 1 + ss.length = e + (s :: ss).length := by simp; omega
    rw [this]; rfl

theorem scanFrom_lead (ms bst : Int) : ∀ (l : List Int) (e : Nat), (∀ x ∈ l, x ≤ 0) →
    scanFrom ms bst { start := e, ext := 0, cur := none, res := [] } e l =
      { start := e + l.length, ext := 0, cur := none, res := [] } := by
  intro l
  induction l with
  | nil => intro e _; rfl
  | cons s ss ih =>
    intro e h
    have hs : s ≤ 0 := h s (by simp)
    have hbr : (0 : Int) + s ≤ max 0 ((0 : Int) - bst) := by omega
    show scanFrom ms bst (scanStep ms bst _ e s) (e + 1) ss = _
    -- `by exact`: which state `hbr` speaks of is known only once `rw` has matched the left side
    rw [Scan.scanStep_break (by exact hbr)]
    refine (ih (e + 1) fun x hx => h x (List.mem_cons_of_mem _ hx)).trans ?_
    rw [List.length_cons, Nat.add_assoc, Nat.add_comm 1]

theorem scanFrom_run (ms bst : Int) (i0 : Nat) : ∀ (ss : List Int) (k : Nat) (acc best : Int) (arg : Nat)
    (B : Int) (A : Nat), firstRunGo bst k acc best arg ss = (B, A) → ms ≤ B →
    ((scanFrom ms bst { start := i0, ext := acc, cur := some ⟨i0, arg, best⟩, res := [] } k ss).flush ms).res.head?
      = some ⟨i0, A, B⟩ := by
  intro ss
  induction ss with
  | nil =>
    intro k acc best arg B A h hB
    simp only [firstRunGo, Prod.mk.injEq] at h
    obtain ⟨rfl, rfl⟩ := h
    simp [scanFrom, ScanSt.flush, hB]
  | cons s ss ih =>
    intro k acc best arg B A h hB
    show ((scanFrom ms bst (scanStep ms bst _ k s) (k + 1) ss).flush ms).res.head? = _
    unfold firstRunGo at h
    simp only at h
    by_cases h1 : acc + s ≤ max 0 (best - bst)
    · rw [if_pos h1] at h
      simp only [Prod.mk.injEq] at h
      obtain ⟨rfl, rfl⟩ := h
      apply flush_res_head
      apply scanFrom_res_head
      rw [Scan.scanStep_break (by exact h1)]
      simp [ScanSt.flush, hB]
    · rw [if_neg h1] at h
      by_cases h2 : acc + s > best
      · rw [if_pos h2] at h
        rw [Scan.scanStep_accept (by exact h1) (by exact h2)]
        exact ih _ _ _ _ _ _ h hB
      · rw [if_neg h2] at h
        rw [Scan.scanStep_plain (by exact h1) (by exact h2)]
        exact ih _ _ _ _ _ _ h hB

theorem scanRanges_lead_run (ms bst : Int) (hb : 0 ≤ bst) (A : List Int) (s : Int) (ss : List Int)
    (hA : ∀ x ∈ A, x ≤ 0) (hs : 0 < s) (B : Int) (E : Nat)
    (hgo : firstRunGo bst (A.length + 1) s s (A.length + 1) ss = (B, E)) (hB : ms ≤ B) :
    (scanRanges ms bst (A ++ s :: ss)).head? = some ⟨A.length, E, B⟩ := by
  unfold scanRanges
  rw [scanFrom_append, show ({} : ScanSt) = { start := 0, ext := 0, cur := none, res := [] } from rfl,
    scanFrom_lead ms bst A 0 hA, Nat.zero_add]
  show ((scanFrom ms bst (scanStep ms bst _ _ s) _ ss).flush ms).res.head? = _
  have h1 : ¬ ((0 : Int) + s ≤ max 0 ((0 : Int) - bst)) := by omega
  have h2 : (0 : Int) + s > 0 := by omega
  rw [Scan.scanStep_accept (by exact h1) (by exact h2)]
  dsimp only
  rw [Int.zero_add]
  exact scanFrom_run ms bst _ ss _ _ _ _ _ _ hgo hB

/-- `0 ≤ bst`: under a negative threshold a first positive score `s ≤ -bst` is itself a break -/
theorem scanRanges_first_run (ms bst : Int) (scores : List Int) (hb : 0 ≤ bst) (r : Rng)
    (h : firstRun ms bst scores = some r) : (scanRanges ms bst scores).head? = some r := by
  -- `scores` is its leading non-positive scores `A` followed by the rest `D`
  have hsplit := List.takeWhile_append_dropWhile (p := fun x : Int => decide (x ≤ 0)) (l := scores)
  have hlead : ∀ x ∈ scores.takeWhile (fun x : Int => decide (x ≤ 0)), x ≤ 0 := fun x hx =>
    of_decide_eq_true (mem_takeWhile_imp hx :)
  have hnot := List.head?_dropWhile_not (fun x : Int => decide (x ≤ 0)) scores
  unfold firstRun at h
  dsimp only at h
  rw [show scores.drop (scores.takeWhile (fun x : Int => decide (x ≤ 0))).length = scores.dropWhile _ from
    (congrArg (List.drop _) hsplit.symm).trans List.drop_left] at h
  generalize scores.takeWhile (fun x : Int => decide (x ≤ 0)) = A at hsplit hlead h
  generalize scores.dropWhile (fun x : Int => decide (x ≤ 0)) = D at hsplit hnot h
  subst hsplit
  cases D with
  | nil => cases h
  | cons s ss =>
    have hs : 0 < s := by simpa using hnot
    dsimp only at h
    generalize hgo : firstRunGo bst (A.length + 1) s s (A.length + 1) ss = res at h
    obtain ⟨B, E⟩ := res
    dsimp only at h
    by_cases hB : ms ≤ B
    · rw [if_pos hB] at h
      cases h
      exact scanRanges_lead_run ms bst hb A s ss hlead hs B E hgo hB
    · rw [if_neg hB] at h
      cases h

end Coma.Proofs
