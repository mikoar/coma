import Proofs.Cigar
import Proofs.Pairing
import Proofs.SegFactory

/-
  C06, the logic part: the single-seed candidate of an exact copy of consecutive reference labels is exactly the true
  pairs.  First for an abstract list of pairs (`Exact.Good`: all at one offset, reference labels a gap apart, label
  numbers distinct): the engine returns exactly these pairs, the scan cuts them as one segment (`Exact.align_eq`); then
  the true pairs of a copy (`Exact.mk`) are such a list, and the copy query and the search window of the seed carry
  exactly their labels.
-/
namespace Coma.Proofs.Exact
open Coma.Spec

structure Good (g s w0 it : Int) (ps : List Pr) : Prop where
  sh  : ∀ p ∈ ps, p.shift = s - w0 ∧ p.src = it ∧ p.q.pos = p.r.pos - w0
  gap : ps.Pairwise (fun a b => a.r.pos + g ≤ b.r.pos)
  rs  : ps.Pairwise (fun a b => a.r.site < b.r.site)
  qs  : ps.Pairwise (fun a b => a.q.site ≠ b.q.site)

theorem candidates_eq {md g s w0 it : Int} {ps : List Pr} (G : Good g s w0 it ps)
    (hs : ((s - w0).natAbs : Int) ≤ md) (hg : md + (s - w0).natAbs < g) :
    candidates md s it (ps.map (·.r)) (ps.map (·.q)) = ps := by
  unfold candidates
  rw [List.flatMap_map]
  refine (flatMap_congr' _ (fun p => [p]) ps fun p hp => ?_).trans (List.flatMap_singleton' ps)
  obtain ⟨h1, h2, h3⟩ := G.sh p hp
  obtain ⟨A, B, rfl⟩ := List.append_of_mem hp
  obtain ⟨_, hB, hA⟩ := List.pairwise_append.1 G.gap
  -- the query labels before `p` lie below its window, those after it above
  have hw : window (p.r.pos - s - md) (p.r.pos - s + md) ((A ++ p :: B).map (·.q)) = [p.q] := by
    rw [List.map_append, List.map_cons]
    refine window_mid (p.r.pos - s - md) (p.r.pos - s + md) (by omega) (A.map (·.q)) [p.q] (B.map (·.q))
      (fun a ha => ?_) (fun w hw => ?_) (fun b hb => ?_)
    · obtain ⟨a', ha', rfl⟩ := List.mem_map.1 ha
      have := hA a' ha' p List.mem_cons_self
      have := (G.sh a' (List.mem_append_left _ ha')).2.2
      omega
    · rw [List.mem_singleton.1 hw]
      omega
    · obtain ⟨b', hb', rfl⟩ := List.mem_map.1 hb
      have := (List.pairwise_cons.1 hB).1 b' hb'
      have := (G.sh b' (List.mem_append_right _ (List.mem_cons_of_mem _ hb'))).2.2
      omega
  rw [hw]
  cases p
  simp only [List.map_cons, List.map_nil, List.cons.injEq, Pr.mk.injEq, and_true, true_and] at h1 h2 h3 ⊢
  omega

theorem unpaired_nil (ps : List Pr) (start : Int) :
    unpaired (ps.map (·.r)) (ps.map (·.q)) ps start = [] := by
  unfold unpaired
  simp only [List.append_eq_nil_iff, List.map_eq_nil_iff, List.filter_eq_nil_iff]
  constructor
  · intro r hr
    obtain ⟨p, hp, rfl⟩ := List.mem_map.1 hr
    simp
    exact ⟨p, hp, rfl⟩
  · intro q hq
    obtain ⟨p, hp, rfl⟩ := List.mem_map.1 hq
    simp
    exact ⟨p, hp, rfl⟩

theorem engine_eq {md g s w0 it : Int} {ps : List Pr} (G : Good g s w0 it ps)
    (hs : ((s - w0).natAbs : Int) ≤ md) (hg : md + (s - w0).natAbs < g) :
    engineOn md s it (ps.map (·.r)) (ps.map (·.q)) = ps.map APos.pair := by
  unfold engineOn
  rw [candidates_eq G hs hg]
  have hd : dedup ps = ps := dedup_eq_self ps (List.pairwise_map.2 G.qs) (List.pairwise_map.2 G.rs)
  rw [hd, unpaired_nil, List.append_nil]
  apply isort_of_sorted
  rw [List.map_map, List.pairwise_map]
  exact G.gap.imp (fun h => by simp only [Function.comp, APos.abs]; omega)

theorem sumScores_eq (P : Params) {g s w0 it : Int} {ps : List Pr} (G : Good g s w0 it ps) :
    sumScores P (ps.map APos.pair) = (ps.length : Int) * (P.sp - P.dp * ((s - w0).natAbs : Int)) := by
  have hsh := G.sh
  clear G
  induction ps with
  | nil => simp [sumScores]
  | cons p t ih =>
    have h1 := (hsh p List.mem_cons_self).1
    have ih := ih (fun x hx => hsh x (List.mem_cons_of_mem _ hx))
    simp only [List.map_cons, sumScores, ih, List.length_cons]
    simp only [APos.score, Pr.dist, h1]
    push_cast
    rw [Int.add_mul]
    omega

theorem getSegments_eq (P : Params) {g s w0 it : Int} {ps : List Pr} (G : Good g s w0 it ps)
    (hc : 0 < P.sp - P.dp * ((s - w0).natAbs : Int)) (hb : 0 ≤ P.bst) (hn : 1 ≤ ps.length)
    (hms : P.minScore ≤ (ps.length : Int) * (P.sp - P.dp * ((s - w0).natAbs : Int))) :
    getSegments P s (ps.map APos.pair) = [⟨s, ps.map APos.pair⟩] := by
  refine getSegments_of_pos P hb s _ (fun h => ?_) (fun a ha => ?_) (by rw [sumScores_eq P G]; exact hms)
  · rw [List.map_eq_nil_iff] at h
    rw [h] at hn
    exact absurd hn (by decide)
  · obtain ⟨p, hp, rfl⟩ := List.mem_map.1 ha
    simp only [APos.score, Pr.dist, (G.sh p hp).1]
    exact hc

theorem align_eq (P : Params) {g s w0 it : Int} {ps : List Pr} (G : Good g s w0 it ps)
    (hs : ((s - w0).natAbs : Int) ≤ P.md) (hg : P.md + (s - w0).natAbs < g)
    (hc : 0 < P.sp - P.dp * ((s - w0).natAbs : Int)) (hb : 0 ≤ P.bst) (hn : 1 ≤ ps.length)
    (hms : P.minScore ≤ (ps.length : Int) * (P.sp - P.dp * ((s - w0).natAbs : Int)))
    (C : ChainCfg) (ref qry : OMap) (rev : Bool)
    (hrefs : refWindow P.md ref s (s + qry.length) = ps.map (·.r)) (hqs : qry.labels rev = ps.map (·.q)) :
    alignerAlign P C ref qry [s] rev it =
      .ok (Row.create P [⟨s, ps.map APos.pair⟩] qry.id ref.id qry.length ref.length rev) := by
  have he : engineAlign P.md ref qry s (s + qry.length) rev it = ps.map APos.pair := by
    rw [engineAlign_on, hrefs, hqs]
    exact engine_eq G hs hg
  have h1 : segmentsOfPeak P ref qry rev it s = .ok [⟨s, ps.map APos.pair⟩] := by
    unfold segmentsOfPeak
    simp only [he]
    rw [getSegments_eq P G hc hb hn hms]
    -- no unpaired position, so nothing is scored with `su`
    have : scoreAll? P (ps.map APos.pair) = some ((ps.map APos.pair).map (APos.score P)) := by
      simp [scoreAll?, APos.isPair]
    rw [this]
  unfold alignerAlign
  simp only [segmentsOfPeaks, h1, bind, Except.bind, pure, Except.pure, List.append_nil, resolveConflicts]

theorem row_pairs (P : Params) {s : Int} (ps : List Pr) (qid rid ql rl : Int) (rev : Bool) :
    (Row.create P [⟨s, ps.map APos.pair⟩] qid rid ql rl rev).pairs = ps := by
  simp only [Row.pairs, Row.create, Seg.pairs, List.flatMap_cons, List.flatMap_nil, List.append_nil]
  rw [filterMap_map_some APos.pair? APos.pair id (fun _ => rfl), List.map_id]

theorem row_conf (P : Params) {g s w0 it : Int} {ps : List Pr} (G : Good g s w0 it ps) (qid rid ql rl : Int)
    (rev : Bool) :
    (Row.create P [⟨s, ps.map APos.pair⟩] qid rid ql rl rev).confidence =
      (ps.length : Int) * (P.sp - P.dp * ((s - w0).natAbs : Int)) := by
  simp [Row.create, sumInts, Seg.score, sumScores_eq P G]

/-- the true pairs of a copy: reference sites `a, a+1, …`, query sites `b, b+st, …`, reference
    coordinates `ws`, query coordinates relative to `w0` -/
def mk (w0 δ it st : Int) : Int → Int → List Int → List Pr
  | _, _, [] => []
  | a, b, w :: ws => ⟨⟨a, w⟩, ⟨b, w - w0⟩, δ, it⟩ :: mk w0 δ it st (a + 1) (b + st) ws

theorem mk_eq (w0 δ it st : Int) (ws : List Int) : ∀ a b,
    mk w0 δ it st a b ws = ws.mapIdx fun (j : Nat) w => ⟨⟨a + j, w⟩, ⟨b + st * j, w - w0⟩, δ, it⟩ := by
  induction ws with
  | nil => intro a b; rfl
  | cons w ws ih =>
    intro a b
    rw [mk, ih, List.mapIdx_cons]
    simp only [Int.natCast_zero, Int.add_zero, Int.mul_zero, Int.natCast_add, Int.natCast_one, Int.mul_add, Int.mul_one,
      Int.add_assoc, Int.add_comm 1, Int.add_comm st]

theorem mk_r (w0 δ it st : Int) (ws : List Int) (a b : Int) :
    (mk w0 δ it st a b ws).map (·.r) = labelsFwd a ws := by
  rw [mk_eq, labelsFwd_eq]
  exact List.ext_getElem (by simp) fun k h1 h2 => by simp

theorem mk_q_fwd (w0 δ it : Int) (ws : List Int) (a b : Int) :
    (mk w0 δ it 1 a b ws).map (·.q) = labelsFwd b (ws.map (· - w0)) := by
  rw [mk_eq, labelsFwd_eq]
  exact List.ext_getElem (by simp) fun k h1 h2 => by simp

theorem mk_q_rev (w0 δ it e : Int) (ws : List Int) (a b : Int) :
    (mk w0 δ it (-1) a b ws).map (·.q) = labelsRev b e ((ws.map (· - w0)).map (e - ·)) := by
  rw [mk_eq, labelsRev_eq]
  refine List.ext_getElem (by simp) fun k h1 h2 => ?_
  simp only [List.getElem_map, List.getElem_mapIdx, Lbl.mk.injEq]
  exact ⟨by omega, by omega⟩

theorem mk_sitePairs (w0 δ it st : Int) (ws : List Int) (a b : Int) :
    sitePairs (mk w0 δ it st a b ws) =
      (List.range ws.length).map (fun (j : Nat) => (a + (j : Int), b + st * (j : Int))) := by
  rw [mk_eq]
  exact List.ext_getElem (by simp [sitePairs]) fun k h1 h2 => by simp [sitePairs]

theorem mk_valid (w0 δ it : Int) (rev : Bool) (ws : List Int) (a b : Int) :
    ValidMatching rev (sitePairs (mk w0 δ it (if rev then -1 else 1) a b ws)) := by
  rw [mk_sitePairs, ValidMatching, List.pairwise_map]
  refine (List.pairwise_lt_range).imp fun {i j} hij => ?_
  cases rev <;> simp <;> omega

theorem mk_good (g s w0 it : Int) (rev : Bool) (ws : List Int) (h : ws.Pairwise (fun a b => a + g ≤ b))
    (a b : Int) : Good g s w0 it (mk w0 (s - w0) it (if rev then -1 else 1) a b ws) := by
  have hv := Cigar.valid_pairwise (mk_valid w0 (s - w0) it rev ws a b)
  refine ⟨fun p hp => ?_, ?_, hv.imp (fun h => h.1), hv.imp fun {x y} hxy => ?_⟩
  · rw [mk_eq] at hp
    obtain ⟨j, _, rfl⟩ := List.mem_mapIdx.1 hp
    exact ⟨rfl, rfl, rfl⟩
  · rw [mk_eq, List.pairwise_iff_getElem]
    intro i j hi hj hij
    simp only [List.getElem_mapIdx]
    exact List.pairwise_iff_getElem.1 h i j _ _ hij
  · have := hxy.2
    cases rev <;> simp at this <;> omega

theorem mk_walkOut (w0 δ it st : Int) (hst : st.natAbs = 1) (ws : List Int) : ∀ a b,
    Cigar.walkOut a (b - st) (mk w0 δ it st a b ws) = List.replicate ws.length Hit.M := by
  induction ws with
  | nil => intro a b; rfl
  | cons w ws ih =>
    intro a b
    have e : b + st - st = b := by omega
    have h1 : (b - (b - st)).natAbs - 1 = 0 := by omega
    have h2 : (a - a).toNat = 0 := by omega
    simp only [mk, Cigar.walkOut, h1, h2, List.replicate_zero, List.nil_append, List.length_cons,
      List.replicate_succ]
    rw [← ih (a + 1) (b + st), e]

theorem mk_hitEnums (w0 δ it : Int) (rev : Bool) (ws : List Int) (hne : ws ≠ []) (a b : Int) :
    hitEnums (mk w0 δ it (if rev then -1 else 1) a b ws) = .ok (List.replicate ws.length Hit.M) := by
  cases ws with
  | nil => exact absurd rfl hne
  | cons w ws =>
    have hv := mk_valid w0 δ it rev (w :: ws) a b
    simp only [mk] at hv ⊢
    rw [Cigar.hitEnums_eq rev _ _ hv]
    simp only
    have hst : (if rev then (-1 : Int) else 1).natAbs = 1 := by cases rev <;> rfl
    have := mk_walkOut w0 δ it _ hst ws (a + 1) (b + (if rev then (-1 : Int) else 1))
    have e : b + (if rev then (-1 : Int) else 1) - (if rev then (-1 : Int) else 1) = b := by omega
    rw [e] at this
    rw [this]
    simp [List.replicate_succ]

theorem copyQuery_labels (qid w0 δ it a : Int) (t : List Int) (rev : Bool) :
    (copyQuery qid (w0 :: t) rev).labels rev =
      (mk w0 δ it (if rev then -1 else 1) a (if rev then ((t.length + 1 : Nat) : Int) else 1) (w0 :: t)).map (·.q) := by
  cases rev with
  | false =>
    simp only [Bool.false_eq_true, if_false]
    rw [mk_q_fwd]
    simp [copyQuery, OMap.labels]
  | true =>
    simp only [if_true]
    rw [mk_q_rev w0 δ it (lastD 0 ((w0 :: t).map (· - w0)))]
    simp only [copyQuery, OMap.labels, if_true, List.headD_cons, List.reverse_reverse, List.length_reverse,
      List.length_map, List.length_cons]
    congr 1
    omega

theorem refWindow_eq (md g : Int) (ref : OMap) (hshift : ref.shift = 0) (A B : List Int) (w0 : Int) (t : List Int)
    (hpos : ref.positions = A ++ ((w0 :: t) ++ B))
    (hsp : ref.positions.Pairwise (fun a b => a + g ≤ b)) (s : Int) (hs : ((s - w0).natAbs : Int) ≤ md)
    (hg : md + (s - w0).natAbs + 1 < g) :
    refWindow md ref s (s + (lastD 0 ((w0 :: t).map (· - w0)) + 1)) =
      labelsFwd ((A.length : Int) + 1) (w0 :: t) := by
  rw [hpos] at hsp
  obtain ⟨hA, hWB, hAW⟩ := List.pairwise_append.1 hsp
  obtain ⟨hW, hB, hWB'⟩ := List.pairwise_append.1 hWB
  have hrel : ((w0 :: t).map (· - w0)).Pairwise (· ≤ ·) :=
    List.pairwise_map.2 (hW.imp (fun h => by omega))
  have hLle := le_lastD 0 _ hrel
  have hLmem := lastD_mem 0 ((w0 :: t).map (· - w0)) (by simp)
  generalize lastD 0 ((w0 :: t).map (· - w0)) = L at hLle hLmem ⊢
  obtain ⟨wl, hwl, hwlL⟩ := List.mem_map.1 hLmem
  have hw0le : ∀ w ∈ w0 :: t, w0 ≤ w := by
    intro w hw
    rcases List.mem_cons.1 hw with rfl | hw
    · omega
    · have := (List.pairwise_cons.1 hW).1 w hw; omega
  have hL0 : w0 - w0 ≤ L := hLle _ (List.mem_map_of_mem (f := (· - w0)) List.mem_cons_self)
  unfold refWindow
  simp only [OMap.labels, Bool.false_eq_true, if_false, hshift, hpos]
  rw [labelsFwd_append, labelsFwd_append]
  have e : (1 : Int) + 0 + (A.length : Int) = (A.length : Int) + 1 := by omega
  rw [e]
  apply window_mid _ _ (by omega)
  · intro a ha
    have h1 := hAW _ (pos_mem_of_mem_labelsFwd ha) w0 (by simp)
    omega
  · intro w hw
    have hm := pos_mem_of_mem_labelsFwd hw
    have h1 := hw0le _ hm
    have h2 := hLle _ (List.mem_map_of_mem (f := (· - w0)) hm)
    omega
  · intro b hb
    have h1 := hWB' wl hwl _ (pos_mem_of_mem_labelsFwd hb)
    omega

end Coma.Proofs.Exact

namespace Coma.Proofs
open Coma.Spec

/-- C06 (logic part), for any parameters and label spacing `g`.  `hs`, `hg`: the distance of the seed `s` from the true
    offset `w0` is within `maxDistance` and, together with `maxDistance`, below the spacing, so each copied label sees
    its own partner only and the search window holds the copied labels only.  The `+ 1` in `hg` is the upper end of
    the search window: it stops at `s + length + md` with `length` = last label + 1 (`copyQuery`), inclusively, so with
    equality the first label after the copy can sit on the bound; the lower end needs `md + |s − w0| < g` only. -/
theorem exact_copy_of_params (P : Params) (g : Int) (ref : OMap) (hshift : ref.shift = 0)
    (hsp : ref.positions.Pairwise (fun a b => a + g ≤ b))
    (i0 n : Nat) (hn : 1 ≤ n) (hwin : i0 + n ≤ ref.positions.length)
    (qid : Int) (rev : Bool) (s w0 : Int) (C : ChainCfg) (it : Int)
    (hw0 : ref.positions[i0]? = some w0) (hs : ((s - w0).natAbs : Int) ≤ P.md)
    (hg : P.md + (s - w0).natAbs + 1 < g) (hc : 0 < P.sp - P.dp * ((s - w0).natAbs : Int)) (hb : 0 ≤ P.bst)
    (hms : P.minScore ≤ (n : Int) * (P.sp - P.dp * ((s - w0).natAbs : Int))) :
    ∃ row, alignerAlign P C ref (copyQuery qid ((ref.positions.drop i0).take n) rev) [s] rev it = .ok row ∧
      sitePairs row.pairs = truePairs i0 n rev ∧
      (∀ p ∈ row.pairs, p.shift = s - w0) ∧
      row.confidence = (n : Int) * (P.sp - P.dp * ((s - w0).natAbs : Int)) ∧
      hitEnums row.pairs = .ok (List.replicate n Hit.M) ∧
      row.referenceId = ref.id ∧ row.rev = rev := by
  -- the window is `w0 :: t`
  have hlen : ((ref.positions.drop i0).take n).length = n := by
    rw [List.length_take, List.length_drop]; omega
  have h0 : ((ref.positions.drop i0).take n)[0]? = some w0 := by
    rw [List.getElem?_take_of_lt (by omega), List.getElem?_drop]
    simpa using hw0
  have hpos : ref.positions = ref.positions.take i0 ++
      ((ref.positions.drop i0).take n ++ (ref.positions.drop i0).drop n) := by
    rw [List.take_append_drop, List.take_append_drop]
  have hAlen : (ref.positions.take i0).length = i0 := by
    rw [List.length_take]; omega
  generalize ref.positions.take i0 = A at hpos hAlen
  generalize (ref.positions.drop i0).drop n = B at hpos
  generalize (ref.positions.drop i0).take n = ws at hlen h0 hpos
  cases ws with
  | nil => simp at h0
  | cons w t =>
    simp at h0
    subst h0
    have hW : (w :: t).Pairwise (fun a b => a + g ≤ b) := by
      rw [hpos] at hsp
      exact (List.pairwise_append.1 (List.pairwise_append.1 hsp).2.1).1
    let ps := Exact.mk w (s - w) it (if rev then -1 else 1) ((i0 : Int) + 1)
      (if rev then ((t.length + 1 : Nat) : Int) else 1) (w :: t)
    have G : Exact.Good g s w it ps := Exact.mk_good g s w it rev (w :: t) hW _ _
    have hpl : ps.length = n := by rw [← hlen]; exact (congrArg List.length (Exact.mk_eq ..)).trans List.length_mapIdx
    have hqs : (copyQuery qid (w :: t) rev).labels rev = ps.map (·.q) :=
      Exact.copyQuery_labels qid w (s - w) it _ t rev
    have hrefs : refWindow P.md ref s (s + (copyQuery qid (w :: t) rev).length) = ps.map (·.r) := by
      rw [Exact.mk_r, ← hAlen]
      exact Exact.refWindow_eq P.md g ref hshift A B w t hpos hsp s hs hg
    have hal := Exact.align_eq P G hs (by omega) hc hb (by omega) (by rw [hpl]; exact hms) C ref
      (copyQuery qid (w :: t) rev) rev hrefs hqs
    refine ⟨_, hal, ?_, ?_, ?_, ?_, rfl, rfl⟩
    · rw [Exact.row_pairs P]
      show sitePairs (Exact.mk _ _ _ _ _ _ _) = _
      rw [Exact.mk_sitePairs, hlen]
      unfold truePairs
      apply List.map_congr_left
      intro j hj
      have hj' : j < n := List.mem_range.1 hj
      simp only [List.length_cons] at hlen
      cases rev
      · simp; omega
      · simp only [if_true, Prod.mk.injEq]
        constructor
        · push_cast; omega
        · rw [hlen]; omega
    · rw [Exact.row_pairs P]
      intro p hp
      exact (G.sh p hp).1
    · rw [Exact.row_conf P G, hpl]
    · rw [Exact.row_pairs P]
      show hitEnums (Exact.mk _ _ _ _ _ _ _) = _
      rw [Exact.mk_hitEnums _ _ _ _ _ (by simp), hlen]

end Coma.Proofs
