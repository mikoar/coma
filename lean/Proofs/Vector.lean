import Props.Defs
import Proofs.SortLemmas

/- `vectorise`, `blur`, `toBp` and `selectPeaks` (`Coma/Vector.lean`) from the definitions.  `vecGo_grid` is the one induction
   over the window loop, on an abstract grid of window starts so that its arithmetic is linear; `vecGo_spec` is its instance
   `ws + i·res`.  `blurGo_spec` is the invariant of the blur loop: after the shifts `s, …, s + n - 1` a bit is set iff it
   was set before or a set bit of `v` lies at one of these distances. -/
namespace Coma.Proofs
open Coma.Spec

/-- the effective end of the window: `end or positions[-1]`.  Same body as `Coma.Props.stopEff`: Props/C16 imports this
    file, so the proofs here cannot name that one; `C16_no_label_lost` identifies the two by unfolding. -/
def stopEff' (positions : List Int) (stop? : Option Int) : Int :=
  match stop? with
  | some e => if e ≠ 0 then e else positions.getLast?.getD 0
  | none   => positions.getLast?.getD 0

namespace Vector

theorem getD_shift (v : List Nat) (s i : Nat) :
    (List.replicate s 0 ++ v).getD i 0 ≠ 0 ↔ s ≤ i ∧ v.getD (i - s) 0 ≠ 0 := by
  by_cases h : i < s
  · rw [getD_rep_lt s i v h]; omega
  · obtain ⟨j, rfl⟩ : ∃ j, i = s + j := ⟨i - s, by omega⟩
    rw [getD_rep_ge, Nat.add_sub_cancel_left]; omega

theorem orLong_length_ge (a b : List Nat) : a.length ≤ (orLong a b).length := by
  induction a generalizing b with
  | nil => simp
  | cons x xs ih =>
    cases b with
    | nil => simp [orLong]
    | cons y ys => simp [orLong]; exact ih ys

theorem orLong_getD (a b : List Nat) (i : Nat) : (orLong a b).getD i 0 =
    if i < a.length ∧ i < b.length then (if a.getD i 0 ≠ 0 ∨ b.getD i 0 ≠ 0 then 1 else 0)
    else a.getD i 0 + b.getD i 0 := by
  induction a generalizing b i with
  | nil => simp [orLong]
  | cons x xs ih =>
    cases b with
    | nil => simp [orLong]
    | cons y ys =>
      cases i with
      | zero => simp [orLong]
      | succ i => simpa [orLong] using ih ys i

theorem orLong_ne (a b : List Nat) (i : Nat) :
    (orLong a b).getD i 0 ≠ 0 ↔ a.getD i 0 ≠ 0 ∨ b.getD i 0 ≠ 0 := by
  rw [orLong_getD]
  split
  · by_cases h : a.getD i 0 ≠ 0 ∨ b.getD i 0 ≠ 0
    · rw [if_pos h]; exact iff_of_true Nat.one_ne_zero h
    · rw [if_neg h]; exact iff_of_false (fun hn => hn rfl) h
  · omega

theorem orLong_bit (a b : List Nat) (i : Nat) (hi : i < a.length)
    (h : a.getD i 0 = 0 ∨ a.getD i 0 = 1) :
    (orLong a b).getD i 0 = 0 ∨ (orLong a b).getD i 0 = 1 := by
  rw [orLong_getD]
  by_cases hb : i < b.length
  · rw [if_pos ⟨hi, hb⟩]; split <;> simp
  · rw [if_neg (fun h => hb h.2), getD_of_length_le b (Nat.le_of_not_lt hb)]; exact h

theorem blurGo_spec (v : List Nat) : ∀ (n s : Nat) (acc : List Nat), v.length ≤ acc.length →
    v.length ≤ (blurGo v s n acc).length ∧ ∀ i, i < v.length →
      ((acc.getD i 0 = 0 ∨ acc.getD i 0 = 1) →
        ((blurGo v s n acc).getD i 0 = 0 ∨ (blurGo v s n acc).getD i 0 = 1)) ∧
      ((blurGo v s n acc).getD i 0 ≠ 0 ↔ acc.getD i 0 ≠ 0 ∨
        ∃ j, v.getD j 0 ≠ 0 ∧ ((i + s ≤ j ∧ j < i + s + n) ∨ (j + s ≤ i ∧ i < j + s + n))) := by
  intro n
  induction n with
  | zero =>
    intro s acc hl
    refine ⟨hl, fun i _ => ⟨fun h => h, ⟨Or.inl, ?_⟩⟩⟩
    rintro (h | ⟨j, _, h⟩)
    · exact h
    · omega
  | succ n ih =>
    intro s acc hl
    simp only [blurGo]
    have hl1 : v.length ≤ (orLong acc (v.drop s)).length :=
      Nat.le_trans hl (orLong_length_ge _ _)
    have hl2 : v.length ≤ (orLong (orLong acc (v.drop s)) (List.replicate s 0 ++ v)).length :=
      Nat.le_trans hl1 (orLong_length_ge _ _)
    obtain ⟨hlen, hrest⟩ := ih (s + 1) _ hl2
    refine ⟨hlen, fun i hi => ?_⟩
    obtain ⟨hb, hiff⟩ := hrest i hi
    constructor
    · intro hacc
      apply hb
      apply orLong_bit _ _ _ (by omega)
      exact orLong_bit _ _ _ (by omega) hacc
    · -- the shift by `s` adds the two bins at distance exactly `s`
      rw [hiff, orLong_ne, orLong_ne, getD_drop, getD_shift]
      constructor
      · rintro (((h | h) | ⟨_, h⟩) | ⟨j, hj, h⟩)
        · exact Or.inl h
        · exact Or.inr ⟨s + i, h, by omega⟩
        · exact Or.inr ⟨i - s, h, by omega⟩
        · exact Or.inr ⟨j, hj, by omega⟩
      · rintro (h | ⟨j, hj, h⟩)
        · exact Or.inl (Or.inl (Or.inl h))
        · by_cases h1 : j = s + i
          · subst h1; exact Or.inl (Or.inl (Or.inr hj))
          · by_cases h2 : j + s = i
            · subst h2; exact Or.inl (Or.inr ⟨by omega, by rwa [Nat.add_sub_cancel]⟩)
            · exact Or.inr ⟨j, hj, by omega⟩

theorem getD_map_norm (v : List Nat) (i : Nat) :
    (v.map fun x => if x ≠ 0 then 1 else 0).getD i 0 = if v.getD i 0 ≠ 0 then 1 else 0 := by
  rw [List.getD_eq_getElem?_getD, List.getD_eq_getElem?_getD, List.getElem?_map]
  cases v[i]? <;> rfl

theorem succ_mul' (a : Nat) (res : Int) : ((a : Int) + 1) * res = a * res + res := by
  rw [Int.add_mul, Int.one_mul]

theorem bin_iff (ws res p : Int) (n : Nat) (hres : 1 ≤ res) (h : ws ≤ p) :
    ((p - ws) / res).toNat = n ↔ ws + n * res ≤ p ∧ p < ws + (n + 1) * res := by
  have h0 : 0 ≤ (p - ws) / res := Int.ediv_nonneg (by omega) (by omega)
  have h1 : (n : Int) ≤ (p - ws) / res ↔ n * res ≤ p - ws := Int.le_ediv_iff_mul_le (by omega)
  have h2 : (p - ws) / res < n + 1 ↔ p - ws < (n + 1) * res := Int.ediv_lt_iff_lt_mul (by omega)
  omega

theorem bin_spec (ws res p : Int) (hres : 1 ≤ res) (h : ws ≤ p) :
    ws + ((p - ws) / res).toNat * res ≤ p ∧ p < ws + (((p - ws) / res).toNat + 1) * res :=
  (bin_iff ws res p _ hres h).mp rfl

theorem vecWhile_spec (res stop p : Int) :
    ∀ (f : Nat) (ws : Int) (z : Nat), ws ≤ p → p < ws + f * res →
      ∃ k : Nat, (vecWhile res stop p f ws z).1 = z + k ∧
        (vecWhile res stop p f ws z).2.1 = ws + k * res ∧
        ((vecWhile res stop p f ws z).2.2 = false →
          (vecWhile res stop p f ws z).2.1 ≤ p ∧ p < (vecWhile res stop p f ws z).2.1 + res) ∧
        ((vecWhile res stop p f ws z).2.2 = true →
          stop < (vecWhile res stop p f ws z).2.1 ∧ (vecWhile res stop p f ws z).2.1 ≤ p ∧ 1 ≤ k) := by
  intro f
  induction f with
  | zero => intro ws z h1 h2; simp at h2; omega
  | succ f ih =>
    intro ws z hws hf
    push_cast at hf
    rw [succ_mul'] at hf
    unfold vecWhile
    by_cases h1 : p ≥ ws + res
    · rw [if_pos h1]
      by_cases h2 : ws + res > stop
      · rw [if_pos h2]
        refine ⟨1, rfl, by simp, by simp, fun _ => ⟨h2, h1, Nat.le_refl _⟩⟩
      · rw [if_neg h2]
        obtain ⟨k, hk1, hk2, hk3, hk4⟩ := ih (ws + res) (z + 1) h1 (by omega)
        refine ⟨k + 1, by omega, ?_, hk3, ?_⟩
        · rw [hk2]; push_cast; rw [Int.add_mul, Int.one_mul]; omega
        · intro hs; have := hk4 hs; omega
    · rw [if_neg h1]
      refine ⟨0, rfl, by simp, fun _ => ⟨hws, ?_⟩, by simp⟩
      show p < ws + res
      omega

theorem vecGo_ge (res stop ws p : Int) (ps : List Int) (hres : 1 ≤ res) (h : ws ≤ p) :
    ∃ k : Nat, ws + k * res ≤ p ∧
      ((p < ws + k * res + res ∧
          vecGo res stop ws (p :: ps) =
            List.replicate k 0 ++ 1 :: vecGo res stop (ws + k * res + res) ps) ∨
       (stop < ws + k * res ∧ 1 ≤ k ∧ vecGo res stop ws (p :: ps) = List.replicate k 0)) := by
  rw [vecGo, if_neg (by omega)]
  obtain ⟨k, hk1, hk2, hk3, hk4⟩ :=
    vecWhile_spec res stop p (((p - ws) / res).toNat + 1) ws 0 h
      (by push_cast; exact (bin_spec ws res p hres h).2)
  simp only []
  generalize vecWhile res stop p (((p - ws) / res).toNat + 1) ws 0 = r at *
  obtain ⟨r1, r2, r3⟩ := r
  simp only at hk1 hk2 hk3 hk4 ⊢
  have hk1' : r1 = k := by omega
  subst hk1' hk2
  refine ⟨r1, ?_⟩
  cases r3 with
  | false =>
    have := hk3 rfl
    exact ⟨this.1, Or.inl ⟨this.2, by simp⟩⟩
  | true =>
    have := hk4 rfl
    exact ⟨this.2.1, Or.inr ⟨this.1, this.2.2, by simp⟩⟩

theorem grid_add {G : Nat → Int} {res : Int} (hG : ∀ i, G (i + 1) = G i + res) : ∀ i : Nat, G 0 + i * res = G i
  | 0 => by simp
  | i + 1 => by rw [hG, ← grid_add hG i]; push_cast; rw [succ_mul', Int.add_assoc]

theorem grid_mono {G : Nat → Int} {res : Int} (hG : ∀ i, G (i + 1) = G i + res) (hres : 0 ≤ res) {i j : Nat}
    (h : i ≤ j) : G i ≤ G j := by
  induction h with
  | refl => exact Int.le_refl _
  | step _ ih => rw [hG]; omega

/-- `i = 0 ∨ G i ≤ stop`: the cut-off never strikes bin 0, nor a bin that starts at or before `stop` -/
theorem vecGo_grid (res stop : Int) (hres : 1 ≤ res) : ∀ (ps : List Int) (G : Nat → Int), (∀ i, G (i + 1) = G i + res) →
    (∀ i, i < (vecGo res stop (G 0) ps).length → ∃ p ∈ ps, G i ≤ p) ∧
    (∀ p ∈ ps, ∀ i : Nat, G i ≤ p → (i = 0 ∨ G i ≤ stop) → i < (vecGo res stop (G 0) ps).length) ∧
    (Ascending ps → ∀ i, i < (vecGo res stop (G 0) ps).length →
      ((vecGo res stop (G 0) ps).getD i 0 = 1 ∨ (vecGo res stop (G 0) ps).getD i 0 = 0) ∧
      ((vecGo res stop (G 0) ps).getD i 0 = 1 ↔ ∃ p ∈ ps, G i ≤ p ∧ p < G i + res)) := by
  intro ps
  induction ps with
  | nil => intro G _; simp [vecGo]
  | cons p ps ih =>
    intro G hG
    have hmono : ∀ {i j : Nat}, i ≤ j → G i ≤ G j := grid_mono hG (by omega)
    by_cases hp : p < G 0
    · rw [vecGo, if_pos hp]
      obtain ⟨h1, h2, h3⟩ := ih G hG
      have hnp : ∀ i, ¬ G i ≤ p := fun i h => by have := hmono (Nat.zero_le i); omega
      refine ⟨fun i hi => ?_, fun q hq i hqi hi => ?_, fun hs i hi => ?_⟩
      · obtain ⟨q, hq, hq2⟩ := h1 i hi
        exact ⟨q, List.mem_cons_of_mem _ hq, hq2⟩
      · rcases List.mem_cons.mp hq with rfl | hq
        · exact absurd hqi (hnp i)
        · exact h2 q hq i hqi hi
      · obtain ⟨hb, hiff⟩ := h3 (List.pairwise_cons.mp hs).2 i hi
        exact ⟨hb, hiff.trans (exists_mem_cons_of_not fun h => hnp i h.1).symm⟩
    · obtain ⟨k, hk, hcase⟩ := vecGo_ge res stop (G 0) p ps hres (by omega)
      rw [grid_add hG k] at hk hcase
      -- an index `i` is `< k`, or `k`, or `k + 1 + j`; the bins before `k` are empty: they end at or before `G k ≤ p`
      have hempty : Ascending (p :: ps) → ∀ {i : Nat}, i < k → ¬ ∃ q ∈ p :: ps, G i ≤ q ∧ q < G i + res :=
        fun hs i hik ⟨q, hq, _, hq3⟩ => by
          have hpq : p ≤ q := (List.mem_cons.mp hq).elim (fun e => e ▸ Int.le_refl _) ((List.pairwise_cons.mp hs).1 q)
          have : G i + res ≤ G k := hG _ ▸ hmono hik
          omega
      rcases hcase with ⟨hpk, heq⟩ | ⟨hst, hk1, heq⟩
      · have ih' := ih (fun j => G (k + 1 + j)) (fun j => hG (k + 1 + j))
        rw [show G (k + 1 + 0) = G k + res from hG k] at ih'
        obtain ⟨h1, h2, h3⟩ := ih'
        have hgt : ∀ j : Nat, p < G (k + 1 + j) := fun j => by
          have := hmono (Nat.le_add_right (k + 1) j); have := hG k; omega
        rw [heq]
        simp only [List.length_append, List.length_replicate, List.length_cons]
        refine ⟨fun i hi => ?_, fun q hq i hqi hi => ?_, fun hs i hi => ?_⟩
        · by_cases hik : i ≤ k
          · exact ⟨p, List.mem_cons_self, Int.le_trans (hmono hik) hk⟩
          · obtain ⟨j, rfl⟩ : ∃ j, i = k + 1 + j := ⟨i - (k + 1), by omega⟩
            obtain ⟨q, hq, hq2⟩ := h1 j (by omega)
            exact ⟨q, List.mem_cons_of_mem _ hq, hq2⟩
        · by_cases hik : i ≤ k
          · omega
          · obtain ⟨j, rfl⟩ : ∃ j, i = k + 1 + j := ⟨i - (k + 1), by omega⟩
            have hq' : q ∈ ps := by
              rcases List.mem_cons.mp hq with rfl | hq
              · exact absurd hqi (Int.not_le.mpr (hgt j))
              · exact hq
            have := h2 q hq' j hqi (Or.inr (hi.resolve_left (by omega)))
            omega
        · have hs' : Ascending ps := (List.pairwise_cons.mp hs).2
          by_cases hik : i < k
          · rw [getD_rep_lt _ _ _ hik]
            exact ⟨Or.inr rfl, iff_of_false Nat.zero_ne_one (hempty hs hik)⟩
          · obtain ⟨j, rfl⟩ : ∃ j, i = k + j := ⟨i - k, by omega⟩
            rw [getD_rep_ge]
            cases j with
            | zero => exact ⟨Or.inl rfl, iff_of_true rfl ⟨p, List.mem_cons_self, hk, hpk⟩⟩
            | succ j =>
              rw [List.getD_cons_succ, show k + (j + 1) = k + 1 + j by omega]
              obtain ⟨hb, hiff⟩ := h3 hs' j (by omega)
              exact ⟨hb, hiff.trans (exists_mem_cons_of_not fun h => Int.not_le.mpr (hgt j) h.1).symm⟩
      · rw [heq]
        simp only [List.length_replicate]
        refine ⟨fun i hi => ?_, fun q hq i hqi hi => ?_, fun hs i hi => ?_⟩
        · exact ⟨p, List.mem_cons_self, Int.le_trans (hmono (Nat.le_of_lt hi)) hk⟩
        · rcases hi with rfl | hi
          · exact hk1
          · exact Nat.lt_of_not_le fun hn => by have := hmono hn; omega
        · have := getD_rep_lt (d := 0) k i [] hi
          rw [List.append_nil] at this
          rw [this]
          exact ⟨Or.inr rfl, iff_of_false Nat.zero_ne_one (hempty hs hi)⟩

theorem vecGo_spec (res stop : Int) (hres : 1 ≤ res) (ps : List Int) (ws : Int) :
    (∀ i, i < (vecGo res stop ws ps).length → ∃ p ∈ ps, ws + i * res ≤ p) ∧
    (∀ p ∈ ps, ∀ i : Nat, ws + i * res ≤ p → (i = 0 ∨ ws + i * res ≤ stop) →
      i < (vecGo res stop ws ps).length) ∧
    (Ascending ps → ∀ i, i < (vecGo res stop ws ps).length →
      ((vecGo res stop ws ps).getD i 0 = 1 ∨ (vecGo res stop ws ps).getD i 0 = 0) ∧
      ((vecGo res stop ws ps).getD i 0 = 1 ↔ ∃ p ∈ ps, ws + i * res ≤ p ∧ p < ws + (i + 1) * res)) := by
  have h := vecGo_grid res stop hres ps (fun i => ws + i * res)
    (fun i => by push_cast; rw [succ_mul', Int.add_assoc])
  simp only [Int.natCast_zero, Int.zero_mul, Int.add_zero] at h
  obtain ⟨h1, h2, h3⟩ := h
  refine ⟨h1, h2, fun hs i hi => ?_⟩
  rw [succ_mul', ← Int.add_assoc]
  exact h3 hs i hi

theorem vecGo_ne_nil (res stop : Int) (hres : 1 ≤ res) (ps : List Int) (ws : Int) :
    vecGo res stop ws ps ≠ [] ↔ ∃ p ∈ ps, ws ≤ p := by
  obtain ⟨h1, h2, _⟩ := vecGo_spec res stop hres ps ws
  rw [← List.length_pos_iff]
  constructor
  · intro h; simpa using h1 0 h
  · rintro ⟨p, hp, hwp⟩; exact h2 p hp 0 (by simpa using hwp) (Or.inl rfl)

theorem mem_le_last (ps : List Int) (l : Int) (hs : Ascending ps) (hl : ps.getLast? = some l) : ∀ p ∈ ps, p ≤ l :=
  fun p hp => (pairwise_le_last hs hl p hp).elim Int.le_of_eq id

theorem vecGo_length (res stop : Int) (hres : 1 ≤ res) (ps : List Int) (ws l : Int)
    (hs : Ascending ps) (hst : ∀ p ∈ ps, p ≤ stop) (hl : ps.getLast? = some l) :
    (vecGo res stop ws ps).length = if l < ws then 0 else ((l - ws) / res).toNat + 1 := by
  obtain ⟨h1, h2, _⟩ := vecGo_spec res stop hres ps ws
  have hmem := List.mem_of_getLast? hl
  have hmax := mem_le_last ps l hs hl
  have hls := hst l hmem
  split
  · apply Classical.byContradiction
    intro hn
    obtain ⟨p, hp, hwp⟩ := h1 0 (by omega)
    have := hmax p hp
    omega
  · obtain ⟨b1, b2⟩ := bin_spec ws res l hres (by omega)
    have lo := h2 l hmem _ b1 (Or.inr (by omega))
    apply Classical.byContradiction
    intro hn
    obtain ⟨p, hp, hwp⟩ := h1 (((l - ws) / res).toNat + 1) (by omega)
    have := hmax p hp
    push_cast at hwp
    omega

theorem vectorise_ok_iff (positions : List Int) (res start : Int) (stop? : Option Int) (v : List Nat) :
    vectorise positions res start stop? = .ok v ↔
      1 ≤ res ∧ (positions ≠ [] ∨ ∃ e, stop? = some e ∧ e ≠ 0) ∧
        vecGo res (stopEff' positions stop?) start positions = v := by
  unfold vectorise stopEff'
  by_cases hr : res < 1
  · rw [if_pos hr]
    exact ⟨nofun, fun h => absurd h.1 (by omega)⟩
  · rw [if_neg hr]
    have hr' : 1 ≤ res := by omega
    cases hl : positions.getLast? with
    | none =>
      have hnil := List.getLast?_eq_none_iff.mp hl
      rcases stop? with _ | e
      · simp [hnil]
      · by_cases he : e = 0 <;> simp [he, hr', hnil]
    | some l =>
      have hne : positions ≠ [] := fun h => by rw [h] at hl; exact nomatch hl
      rcases stop? with _ | e
      · simp [hr', hne]
      · by_cases he : e = 0 <;> simp [he, hr', hne]

end Vector

open _root_.Coma.Proofs.Vector

theorem vectorise_bits (positions : List Int) (res start : Int) (stop? : Option Int) (v : List Nat)
    (hs : Ascending positions) (h : vectorise positions res start stop? = .ok v) :
    ∀ i, i < v.length →
      (v.getD i 0 = 1 ∨ v.getD i 0 = 0) ∧
      (v.getD i 0 = 1 ↔ ∃ p ∈ positions, start + i * res ≤ p ∧ p < start + (i + 1) * res) := by
  obtain ⟨hres, -, rfl⟩ := (vectorise_ok_iff positions res start stop? v).mp h
  exact (vecGo_spec res _ hres positions start).2.2 hs

theorem vectorise_ok (positions : List Int) (res start : Int) (stop? : Option Int) :
    (∃ v, vectorise positions res start stop? = .ok v) ↔
      (1 ≤ res ∧ (positions ≠ [] ∨ ∃ e, stop? = some e ∧ e ≠ 0)) :=
  ⟨fun ⟨v, h⟩ => ⟨((vectorise_ok_iff _ _ _ _ v).mp h).1, ((vectorise_ok_iff _ _ _ _ v).mp h).2.1⟩,
    fun ⟨h1, h2⟩ => ⟨_, (vectorise_ok_iff _ _ _ _ _).mpr ⟨h1, h2, rfl⟩⟩⟩

theorem blur_exists (v : List Nat) (radius : Int) (h : 0 ≤ radius) : ∃ w, blur v radius = .ok w := by
  unfold blur
  rw [if_neg (by omega)]
  exact ⟨_, rfl⟩

theorem blur_spec (v w : List Nat) (radius : Int) (h : blur v radius = .ok w) :
    w.length = v.length ∧
    ∀ i, i < v.length →
      (w.getD i 0 = 1 ∨ w.getD i 0 = 0) ∧
      (w.getD i 0 = 1 ↔ ∃ j, j < v.length ∧ v.getD j 0 ≠ 0 ∧ (i : Int) - radius ≤ j ∧ (j : Int) ≤ i + radius) := by
  unfold blur at h
  by_cases hr : radius < 0
  · simp [hr] at h
  · simp only [hr, if_false, Except.ok.injEq] at h
    obtain ⟨hlen, hrest⟩ := blurGo_spec v radius.toNat 1
      (v.map fun x => if x ≠ 0 then 1 else 0) (by simp)
    subst h
    refine ⟨by rw [List.length_take]; omega, fun i hi => ?_⟩
    obtain ⟨hb, hiff⟩ := hrest i hi
    have hget : ∀ (l : List Nat), (l.take v.length).getD i 0 = l.getD i 0 := by
      intro l
      simp [List.getD_eq_getElem?_getD, hi]
    rw [hget]
    have hbit := hb (by rw [getD_map_norm]; split <;> simp)
    refine ⟨hbit.symm, ?_⟩
    have h1 : ∀ x : Nat, (x = 0 ∨ x = 1) → (x = 1 ↔ x ≠ 0) := by omega
    rw [h1 _ hbit, hiff, getD_map_norm]
    constructor
    · rintro (h | ⟨j, hj, h⟩)
      · exact ⟨i, hi, fun h0 => by rw [h0] at h; exact h rfl, by omega, by omega⟩
      · exact ⟨j, Nat.lt_of_not_le fun hn => hj (getD_of_length_le v hn), hj, by omega, by omega⟩
    · rintro ⟨j, -, hv, h2, h3⟩
      by_cases hji : j = i
      · subst hji; left; rw [if_pos hv]; exact Nat.one_ne_zero
      · exact Or.inr ⟨j, hv, by omega⟩

theorem toBp_centre (bin res start : Int) (hres : 1 ≤ res) :
    start + bin * res ≤ toBp bin res start ∧ toBp bin res start < start + (bin + 1) * res ∧
    2 * (toBp bin res start - (start + bin * res)) ≤ res ∧
    2 * ((start + (bin + 1) * res - 1) - toBp bin res start) ≤ res := by
  unfold toBp
  rw [Int.add_mul, Int.one_mul]
  generalize bin * res = x
  omega

theorem selectPeaks_spec {α} (count : Nat) (score : α → Int) (peaks : List α) :
    (selectPeaks count score peaks).length = min count peaks.length ∧
    ((selectPeaks count score peaks).map score).Pairwise (· ≥ ·) ∧
    ∃ rest, (selectPeaks count score peaks ++ rest).Perm peaks ∧
      ∀ x ∈ selectPeaks count score peaks, ∀ y ∈ rest, score y ≤ score x := by
  have hperm : (isortDesc score peaks).Perm peaks := isort_perm _ _
  have hsorted : (isortDesc score peaks).Pairwise (fun x y => score y ≤ score x) :=
    (List.pairwise_map.mp (isort_sorted (fun a => - score a) peaks)).imp (by omega)
  unfold selectPeaks
  refine ⟨?_, ?_, (isortDesc score peaks).drop count, ?_, ?_⟩
  · rw [List.length_take, hperm.length_eq]
  · rw [List.pairwise_map]
    exact (hsorted.sublist (List.take_sublist _ _)).imp (fun h => h)
  · rw [List.take_append_drop]; exact hperm
  · rw [← List.take_append_drop count (isortDesc score peaks)] at hsorted
    exact (List.pairwise_append.mp hsorted).2.2

theorem selectPeaks_map {α β} (f : α → β) (n : Nat) (score : β → Int) (l : List α) :
    selectPeaks n score (l.map f) = (selectPeaks n (fun x => score (f x)) l).map f := by
  unfold selectPeaks isortDesc
  rw [isort_map f _ _ (fun _ => rfl), List.map_take]

theorem selectPeaks_subset {α} (n : Nat) (score : α → Int) (l : List α) :
    ∀ x ∈ selectPeaks n score l, x ∈ l := by
  intro x hx
  obtain ⟨_, _, rest, hperm, _⟩ := selectPeaks_spec n score l
  exact hperm.mem_iff.mp (List.mem_append_left _ hx)

end Coma.Proofs
