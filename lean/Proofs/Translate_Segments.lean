import Proofs.ConflictAll
import Proofs.Compose

/-
  Segments as the factory cuts them, seen from the resolver (`QL`, `QR`).  In front of an EMPTY right segment a resolver
  step returns a `QL` left segment unchanged — whatever the comparison with the null pair says
  (`resolvePair_empty_right`).  Every segment the factory cuts from the position list of a peak is of both kinds
  (`segmentsOfPeaks_factory`), for every parameter set and every input.
-/
namespace Coma.Proofs.Translate
open Coma.Spec Coma.Proofs.Conflict

/-- what the pass needs of a segment used on the LEFT of an empty segment; for a segment of the factory the last clause
    (every non-empty suffix has a positive score) is `Scan.Good.first`, C13 (e), through `Good.suffix_pos` -/
def QL (P : Params) (s : Seg) : Prop :=
  s.items = [] ∨ ∃ e, s.items.getLast? = some (.pair e) ∧ (∀ p ∈ s.pairs, p.leqAny e = true) ∧
    ∀ a, a ≠ [] → a <:+ s.items → 0 < sumScores P a

/-- … and of a segment of the chain (used on the right, then, cut, on the left) -/
def QR (s : Seg) : Prop := PyNodup s.items ∧ (s.items = [] ∨ ∃ c tl, s.items = .pair c :: tl)

theorem QL_suffix {P : Params} {r R : Seg} (hR : QL P R) (h : r.items <:+ R.items) : QL P r := by
  rcases hR with h0 | ⟨e, he, hall, hsuf⟩
  · left; rw [h0] at h; exact List.suffix_nil.1 h
  · by_cases hr : r.items = []
    · exact Or.inl hr
    · right
      refine ⟨e, ?_, ?_, ?_⟩
      · exact (getLast?_of_suffix h hr).trans he
      · intro p hp
        exact hall p ((h.sublist.filterMap APos.pair?).subset hp)
      · intro a ha hsa
        exact hsuf a ha (hsa.trans h)

theorem chars_ne_nil (P : Params) {p : Pr} : ∀ {xs : List APos} (i : Nat) (c : Int), APos.pair p ∈ xs →
    charsRef P i c xs ≠ [] ∧ charsQry P i c xs ≠ []
  | [], _, _, h => nomatch h
  | .pair _ :: _, _, _, _ => ⟨List.cons_ne_nil _ _, List.cons_ne_nil _ _⟩
  | .uref _ :: _, _, _, h => ⟨List.cons_ne_nil _ _, (chars_ne_nil P _ _ ((List.mem_cons.1 h).resolve_left nofun)).2⟩
  | .uqry _ _ :: _, _, _, h => ⟨(chars_ne_nil P _ _ ((List.mem_cons.1 h).resolve_left nofun)).1, List.cons_ne_nil _ _⟩

theorem overlap_empty_right {L R : Seg} {e : Pr} (he : L.items.getLast? = some (.pair e)) (hR : R.items = []) :
    L.endOverlapsWithStartOf R = .ok (e.leqAny nullPr) := by
  obtain ⟨hne, hp, hend⟩ := last_pair he
  -- `L` has a pair, so it has a start position
  have hc := startPos_of_head? (List.head?_eq_some_head fun h : L.pairs = [] => by rw [h] at hp; cases hp)
  unfold Seg.endOverlapsWithStartOf
  rw [if_neg (by simpa using hne), startPos_empty hR, endPos_empty hR, hc, hend]
  rfl

theorem cut_empty_right (P : Params) (L R : Seg) (pk : Int) {A : List APos}
    (hA : A = [] ∨ (∃ e, APos.pair e ∈ A) ∧ 0 < sumScores P A) :
    ∃ b, cut P L R ⟨pk, A⟩ ⟨R.peak, []⟩ = (L, R, b) := by
  rw [cut_eq]
  rcases hA with rfl | ⟨⟨e, he⟩, hpos⟩
  · -- no characteristics on either side: merge index 0 of 0
    exact ⟨.index0, by split <;> exact congrArg (·, R, Branch.index0) (sub_nil L)⟩
  · -- characteristics on the left only: the scores decide
    have key : ∀ lch : List LabelChar, lch ≠ [] → cutAt P L R ⟨pk, A⟩ ⟨R.peak, []⟩ lch [] = (L, R, .dropRight) := by
      intro lch hl
      unfold cutAt
      rw [if_neg fun h : lch.length = [].length => hl (List.length_eq_zero_iff.1 h),
        if_pos (show Seg.score P ⟨pk, A⟩ > Seg.score P ⟨R.peak, []⟩ from hpos), sub_nil]
    refine ⟨.dropRight, ?_⟩
    split
    · exact key _ (chars_ne_nil P 0 0 he).1
    · exact key _ (chars_ne_nil P 0 0 he).2

theorem resolvePairB_empty_right (P : Params) {L R : Seg} (hL : QL P L) (hR : R.items = []) :
    ∃ b, resolvePairB P L R = .ok (L, R, b) := by
  rw [resolvePairB_eq]
  rcases hL with h0 | ⟨e, he, hall, hsuf⟩
  · exact ⟨.emptyLeft, by rw [h0]; rfl⟩
  · obtain ⟨hne, _, hend⟩ := last_pair he
    rw [if_neg (by simpa using hne), overlap_empty_right he hR, startPos_empty hR, hend]
    cases e.leqAny nullPr with
    | false => exact ⟨.noOverlap, rfl⟩
    | true =>
      show ∃ b, (do let Lc ← L.slice .null (.pr e); let Rc ← R.slice .null (.pr e); pure (cut P L R Lc Rc)) = _
      rw [slice_left_of he hall .null, slice_empty hR]
      have hsA := List.dropWhile_suffix (l := L.items) fun p => p.lessOnBoth SP.null.toPr
      obtain ⟨b, hb⟩ := cut_empty_right P L R L.peak (A := L.items.dropWhile fun p => p.lessOnBoth SP.null.toPr) (by
        by_cases hA0 : L.items.dropWhile (fun p => p.lessOnBoth SP.null.toPr) = []
        · exact .inl hA0
        · exact .inr ⟨⟨e, List.mem_of_getLast? ((getLast?_of_suffix hsA hA0).trans he)⟩, hsuf _ hA0 hsA⟩)
      exact ⟨b, congrArg Except.ok hb⟩

theorem resolvePair_empty_right (P : Params) {L R : Seg} (hL : QL P L) (hR : R.items = []) :
    resolvePair P L R = .ok (L, R) :=
  ConflictAll.resolvePair_ok_iff.2 (resolvePairB_empty_right P hL hR)

theorem getSegments_Q (P : Params) (peak : Int) (xs : List APos) (hsc : scoreAll? P xs ≠ none)
    (hn : PyNodup xs)
    (ho : xs.Pairwise (fun a b => ∀ p e, a = .pair p → b = .pair e → p.leqAny e = true)) :
    ∀ s ∈ getSegments P peak xs, QL P s ∧ QR s := by
  intro s hs
  rcases mem_getSegments_run hsc hs with rfl | ⟨r, p1, p2, g, hle, rfl, hhead, hlast⟩
  · exact ⟨Or.inl rfl, List.Pairwise.nil, Or.inl rfl⟩
  · dsimp only at hhead hlast
    have hinf := run_infix xs r.start (r.stop - r.start)
    have hlen : ((xs.drop r.start).take (r.stop - r.start)).length = r.stop - r.start := by
      rw [List.length_take, List.length_drop]; omega
    refine ⟨Or.inr ⟨p2, hlast, ?_, ?_⟩, List.Pairwise.sublist hinf.sublist hn,
      Or.inr ⟨p1, List.head?_eq_some_iff.1 hhead⟩⟩
    · intro p hp
      have hp' : APos.pair p ∈ (xs.drop r.start).take (r.stop - r.start) := mem_pairsOf.1 hp
      obtain ⟨ys, hys⟩ := List.getLast?_eq_some_iff.1 hlast
      have hpw := List.Pairwise.sublist hinf.sublist ho
      rw [hys] at hpw hp'
      rcases List.mem_append.1 hp' with h1 | h1
      · exact (List.pairwise_append.1 hpw).2.2 _ h1 _ (by simp) p p2 rfl rfl
      · simp only [List.mem_singleton, APos.pair.injEq] at h1
        rw [h1]; exact leqAny_self _
    · -- a suffix of the run is the run of a later start
      intro a ha hsa
      have ha' := List.suffix_iff_eq_drop.1 hsa
      show 0 < sumScores P a
      have hal : a.length ≤ r.stop - r.start := by rw [← hlen]; exact hsa.length_le
      have hapos : 0 < a.length := List.length_pos_iff.2 ha
      rw [hlen] at ha'
      generalize hj : r.stop - r.start - a.length = j at ha'
      have e1 : a = (xs.drop (r.start + j)).take (r.stop - (r.start + j)) := by
        rw [ha', List.drop_take, List.drop_drop]
        congr 1
        omega
      rw [e1, sumScores_run]
      exact g.suffix_pos _ (by omega) (by omega)

end Coma.Proofs.Translate

namespace Coma.Proofs
open Coma.Spec

theorem segmentsOfPeaks_factory (P : Params) (ref qry : OMap) (rev : Bool) (it : Int) (peaks : List Int)
    (segs : List Seg) (h : segmentsOfPeaks P ref qry rev it peaks = .ok segs) :
    ∀ s ∈ segs, Translate.QL P s ∧ Translate.QR s := by
  intro s hs
  obtain ⟨p, _, it', a, ha, hsa⟩ := mem_segmentsOfPeaks h s hs
  obtain ⟨hsc, ea⟩ := segmentsOfPeak_ok_iff.1 ha
  -- (`rfl` in place of `ea` makes `rcases` compute the weak head normal form of `getSegments …`: the whole scan)
  rw [ea] at hsa
  exact Translate.getSegments_Q P p (peakPositions P ref qry rev it' p) hsc
    (engine_pyNodup P.md ref qry p (p + qry.length) rev it')
    (PO.engine_pairs_leqAny P.md ref qry p (p + qry.length) rev it') s hsa

end Coma.Proofs
