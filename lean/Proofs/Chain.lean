import Proofs.ChainDP
import Proofs.SortLemmas

/-
  The chainer.  `chainSegs` is `withEnds?`, the sort by key and the programme, with the empty segments put behind
  (`chainSegs_eq`): its shape, when it raises, and its optimality follow from `dpChain_spec`.
-/
namespace Coma.Proofs
open Coma.Spec

theorem dp_indices {α} (score : α → Rat) (join : α → α → Option Rat) (pre : List α) (h : pre ≠ []) :
    (dpChain score join pre).1 ≠ [] ∧
    (dpChain score join pre).1.Pairwise (· < ·) ∧
    ∀ i ∈ (dpChain score join pre).1, i < pre.length := by
  obtain ⟨b, path, hdp, hbl, hpw, -, -⟩ := dpChain_spec score join pre h
  rw [hdp]
  refine ⟨by simp, hpw, fun i hi => ?_⟩
  rcases pairwise_le_last hpw List.getLast?_concat i hi with rfl | hi
  · exact hbl
  · exact Nat.lt_trans hi hbl

theorem dp_sublist {α} (score : α → Rat) (join : α → α → Option Rat) (pre : List α) :
    ((dpChain score join pre).1.filterMap (fun i => pre[i]?)).Sublist pre := by
  by_cases h : pre = []
  · subst h
    simp
  · exact filterMap_idx_sublist pre _ (dp_indices score join pre h).2.1 (dp_indices score join pre h).2.2

theorem dp_total {α} (score : α → Rat) (join : α → α → Option Rat) (pre : List α) (h : pre ≠ []) :
    chainTotal score join ((dpChain score join pre).1.filterMap (fun i => pre[i]?)) = some (dpChain score join pre).2 := by
  obtain ⟨b, path, hdp, -, -, htot, -⟩ := dpChain_spec score join pre h
  rw [hdp]
  exact htot

theorem dp_optimal {α} (score : α → Rat) (join : α → α → Option Rat) (pre : List α)
    (c : List α) (hc : c.Sublist pre) (hne : c ≠ []) :
    leOpt (chainTotal score join c) (dpChain score join pre).2 := by
  obtain ⟨-, -, -, -, -, -, hopt⟩ :=
    dpChain_spec score join pre fun h => hne (List.sublist_nil.mp (h ▸ hc))
  exact hopt c hc hne

theorem iabs_nonneg (x : Int) : 0 ≤ iabs x := by
  unfold iabs; split <;> omega

theorem rat_div_nonneg {a b : Rat} (ha : 0 ≤ a) (hb : 0 < b) : 0 ≤ a / b :=
  Rat.mul_nonneg ha (Rat.le_of_lt (Rat.inv_pos.mpr hb))

theorem int_mul_self_nonneg (a : Int) : 0 ≤ a * a :=
  (Int.le_total 0 a).elim (fun h => Int.mul_nonneg h h) fun h => Int.mul_nonneg_of_nonpos_of_nonpos h h

theorem calcScore_nonneg (variant rd qd : Int) : 0 ≤ calcScore variant rd qd := by
  have key : ∀ a b m : Int, (0 : Rat) ≤ ((a * a + b * b : Int) : Rat) / ((max m 1 : Int) : Rat) := fun a b m =>
    rat_div_nonneg (Rat.intCast_nonneg.mpr (Int.add_nonneg (int_mul_self_nonneg a) (int_mul_self_nonneg b)))
      (Rat.intCast_pos.mpr (Int.lt_of_lt_of_le (by decide) (Int.le_max_right m 1)))
  unfold calcScore
  split <;> exact key ..

theorem calcScore_zero (variant : Int) : calcScore variant 0 0 = 0 := by
  unfold calcScore
  split <;> exact Rat.zero_mul _

theorem joinScore_eq_some_iff {mult : Rat} {variant : Int} {prev cur : Ends} {v : Rat} :
    joinScore mult variant prev cur = some v ↔
      0 ≤ min (cur.e.r.pos - cur.s.r.pos) (prev.e.r.pos - prev.s.r.pos) + 2 * (cur.s.r.pos - prev.e.r.pos) ∧
      0 ≤ min (iabs (cur.e.q.pos - cur.s.q.pos)) (iabs (prev.e.q.pos - prev.s.q.pos)) +
        2 * (cur.s.q.pos - prev.e.q.pos) ∧
      v = - mult * calcScore variant (cur.s.r.pos - prev.e.r.pos) (cur.s.q.pos - prev.e.q.pos) := by
  unfold joinScore
  dsimp only
  rw [← and_assoc, ← Int.le_min, ← Int.not_lt]
  split
  · exact ⟨nofun, fun h => absurd ‹_› h.1⟩
  · exact ⟨fun h => ⟨‹_›, (Option.some.inj h).symm⟩, fun h => h.2 ▸ rfl⟩

theorem ends?_eq_none_iff (s : Seg) : s.ends? = none ↔ s.pairs = [] := by
  unfold Seg.ends?
  cases s.pairs <;> simp

theorem withEnds?_cons (s : Seg) (ss : List Seg) :
    withEnds? (s :: ss) = s.ends?.bind fun e => (withEnds? ss).map ((s, e) :: ·) := by
  rw [withEnds?]
  cases s.ends? <;> cases withEnds? ss <;> rfl

theorem withEnds?_eq_none_iff : ∀ (l : List Seg), withEnds? l = none ↔ ∃ s ∈ l, s.pairs = []
  | [] => by simp [withEnds?]
  | s :: ss => by
    simp only [withEnds?_cons, List.mem_cons, exists_eq_or_imp, ← ends?_eq_none_iff s, ← withEnds?_eq_none_iff ss]
    cases s.ends? <;> simp

theorem withEnds?_map_fst : ∀ {l : List Seg} {ne : List (Seg × Ends)},
    withEnds? l = some ne → ne.map (·.1) = l
  | [], ne, h => by cases h; rfl
  | s :: ss, ne, h => by
    rw [withEnds?_cons, Option.bind_eq_some_iff] at h
    obtain ⟨e, -, h⟩ := h
    obtain ⟨rest, h2, rfl⟩ := Option.map_eq_some_iff.mp h
    rw [List.map_cons, withEnds?_map_fst h2]

/-- the score and join functions `chainSegs` gives to the DP -/
abbrev segScore (P : Params) (x : Seg × Ends) : Rat := ((x.1.score P : Int) : Rat)
abbrev segJoin (C : ChainCfg) (a b : Seg × Ends) : Option Rat := joinScore C.mult C.variant a.2 b.2

/-- `chainSegs` without its special case for "no non-empty segment" (there the DP selects nothing) -/
theorem chainSegs_eq (P : Params) (C : ChainCfg) (segs : List Seg) :
    chainSegs P C segs = (withEnds? (segs.filter fun s => !s.isEmpty)).map fun ne =>
      ((dpChain (segScore P) (segJoin C) (isort (fun x : Seg × Ends => x.2.key) ne)).1.filterMap
        fun i => (isort (fun x : Seg × Ends => x.2.key) ne)[i]?).map (·.1) ++ segs.filter Seg.isEmpty := by
  unfold chainSegs
  cases withEnds? (segs.filter fun s => !s.isEmpty) with
  | none => rfl
  | some ne =>
    simp only [Option.map_some, List.map_filterMap]
    cases isort (fun x : Seg × Ends => x.2.key) ne with
    | nil => rfl
    | cons a t => rfl

theorem chainSegs_shape (P : Params) (C : ChainCfg) (segs out : List Seg)
    (h : chainSegs P C segs = some out) :
    ∃ ne : List (Seg × Ends), withEnds? (segs.filter (fun s => !s.isEmpty)) = some ne ∧
      ∃ sel : List (Seg × Ends), sel.Sublist (isort (fun (x : Seg × Ends) => x.2.key) ne) ∧
        out = sel.map (·.1) ++ segs.filter Seg.isEmpty := by
  rw [chainSegs_eq, Option.map_eq_some_iff] at h
  obtain ⟨ne, hne, rfl⟩ := h
  exact ⟨ne, hne, _, dp_sublist .., rfl⟩

theorem chainSegs_subset {P : Params} {C : ChainCfg} {segs out : List Seg}
    (h : chainSegs P C segs = some out) : ∀ c ∈ out, c ∈ segs := by
  obtain ⟨ne, hne, sel, hsel, rfl⟩ := chainSegs_shape P C segs out h
  intro c hc
  rcases List.mem_append.1 hc with hc | hc
  · obtain ⟨x, hx, rfl⟩ := List.mem_map.1 hc
    have hx' : x ∈ ne := mem_isort.1 (hsel.subset hx)
    have : x.1 ∈ ne.map (·.1) := List.mem_map_of_mem hx'
    rw [withEnds?_map_fst hne] at this
    exact (List.mem_filter.1 this).1
  · exact (List.mem_filter.1 hc).1

theorem chainSegs_none_iff (P : Params) (C : ChainCfg) (segs : List Seg) :
    chainSegs P C segs = none ↔ ∃ s ∈ segs, s.isEmpty = false ∧ s.pairs = [] := by
  rw [chainSegs_eq, Option.map_eq_none_iff, withEnds?_eq_none_iff]
  simp only [List.mem_filter, Bool.not_eq_true', and_assoc]

def segChainTotal (P : Params) (C : ChainCfg) (c : List (Seg × Ends)) : Option Rat :=
  chainTotal (fun (x : Seg × Ends) => ((x.1.score P : Int) : Rat)) (fun a b => joinScore C.mult C.variant a.2 b.2) c

/-- C14 for the real chainer: the non-empty part of the result is an order-respecting selection of the key-ordered
    non-empty input segments whose total (segment scores + join scores) is finite and at least the total of EVERY
    non-empty order-respecting selection -/
theorem chainSegs_optimal (P : Params) (C : ChainCfg) (segs out : List Seg) (ne : List (Seg × Ends))
    (h : chainSegs P C segs = some out)
    (hne : withEnds? (segs.filter (fun s => !s.isEmpty)) = some ne) (hnn : ne ≠ []) :
    ∃ sel : List (Seg × Ends), sel.Sublist (isort (fun (x : Seg × Ends) => x.2.key) ne) ∧ sel ≠ [] ∧
      out = sel.map (·.1) ++ segs.filter Seg.isEmpty ∧
      ∃ tot : Rat, segChainTotal P C sel = some tot ∧
        ∀ c : List (Seg × Ends), c.Sublist (isort (fun (x : Seg × Ends) => x.2.key) ne) → c ≠ [] →
          leOpt (segChainTotal P C c) tot := by
  have hpre : isort (fun (x : Seg × Ends) => x.2.key) ne ≠ [] := fun h0 => hnn ((isort_eq_nil _ ne).1 h0)
  rw [chainSegs_eq, hne] at h
  cases h
  refine ⟨_, dp_sublist .., fun h0 => ?_, rfl, _, dp_total (segScore P) (segJoin C) _ hpre,
    fun c => dp_optimal _ _ _ c⟩
  obtain ⟨hi1, _, hi3⟩ := dp_indices (segScore P) (segJoin C) _ hpre
  obtain ⟨i, t, hd⟩ := List.exists_cons_of_ne_nil hi1
  rw [hd] at h0 hi3
  simp [List.getElem?_eq_getElem (hi3 i (by simp))] at h0

end Coma.Proofs
