import Props.Defs
import Proofs.ConflictAll
import Proofs.Execute
import Proofs.Select
import Proofs.Fields
/- C08: what a join returns, what `resolveRows` does with its groups, how the files of the modes are related. -/
namespace Coma.Proofs
open Coma.Spec Coma.Proofs.Conflict Coma.Proofs.Select Coma.Proofs.Exc

namespace Modes

theorem valid_of_check {r : Row} (h : r.isOneToOneAndCollinear = true) :
    r.pairs ≠ [] ∧ ValidMatching r.rev (sitePairs r.pairs) := by
  unfold Row.isOneToOneAndCollinear at h
  simp only [Bool.and_eq_true, Bool.not_eq_true', strictlyAscending_iff] at h
  obtain ⟨⟨h1, h2⟩, h3⟩ := h
  refine ⟨fun h0 => by simp [h0] at h1, ?_⟩
  unfold ValidMatching sitePairs
  rw [List.pairwise_map] at h2 h3 ⊢
  refine (h2.and h3).imp ?_
  intro a b ⟨hab, hq⟩
  refine ⟨hab, ?_⟩
  cases hr : r.rev <;> simp [hr] at hq ⊢ <;> omega

theorem head_pairs_subset {a : Row} {sa : Seg} {ua : List Seg} (h : a.segments = sa :: ua) :
    ∀ p ∈ sa.pairs, p ∈ a.pairs := by
  intro p hp
  unfold Row.pairs
  rw [h, List.flatMap_cons]
  exact List.mem_append_left _ hp

theorem _root_.Coma.Proofs.joinRows_subset (P : Params) (a b j : Row) (h : joinRows P a b = .ok (some j)) :
    (∀ p ∈ j.pairs, p ∈ a.pairs ∨ p ∈ b.pairs) ∧
    j.queryId = a.queryId ∧ j.referenceId = a.referenceId ∧ j.rev = a.rev ∧
    j.queryLength = a.queryLength ∧ j.referenceLength = a.referenceLength ∧
    j.pairs ≠ [] ∧ ValidMatching j.rev (sitePairs j.pairs) := by
  rw [joinRows_eq] at h
  split at h
  · next pa _ pb _ sa _ sb _ _ _ h3 h4 =>
    obtain ⟨⟨l, r⟩, hres, hj⟩ := (map_ok ..).1 h
    obtain ⟨rfl, hc⟩ := joined_eq_some hj.symm
    obtain ⟨hne, hvm⟩ := valid_of_check hc
    refine ⟨fun p hp => ?_, rfl, rfl, rfl, rfl, rfl, hne, hvm⟩
    -- the step keeps a sublist of either segment, whichever of the two is resolved as the left one
    obtain ⟨L, R, hLR, hres⟩ : ∃ L R, (L = sa ∧ R = sb ∨ L = sb ∧ R = sa) ∧ resolvePair P L R = .ok (l, r) := by
      split at hres
      · exact ⟨sa, sb, .inl ⟨rfl, rfl⟩, hres⟩
      · exact ⟨sb, sa, .inr ⟨rfl, rfl⟩, hres⟩
    obtain ⟨br, hB⟩ := ConflictAll.resolvePair_ok_iff.mp hres
    obtain ⟨s1, s2, _, _⟩ := resolve_sublist hB
    have hp : p ∈ l.pairs ++ (r.pairs ++ []) := hp
    rw [List.append_nil, List.mem_append] at hp
    have hp := hp.imp (fun h => (s1.filterMap _).subset h) (fun h => (s2.filterMap _).subset h)
    rcases hLR with ⟨rfl, rfl⟩ | ⟨rfl, rfl⟩
    · exact hp.imp (head_pairs_subset h3 p) (head_pairs_subset h4 p)
    · exact hp.symm.imp (head_pairs_subset h3 p) (head_pairs_subset h4 p)
  · cases h

theorem resolveGroups_joined {P : Params} {d : Int} {gs : List (List Row)} {J S : List Row}
    (h : resolveGroups P d gs = .ok (J, S)) :
    ∀ r ∈ J, ∃ g ∈ gs, ∃ x y rest, g = x :: y :: rest ∧ checkOverlap x y d = true ∧
      joinRows P x y = .ok (some r) := by
  refine resolveGroups_ind (fun gs J _ => ∀ r ∈ J, ∃ g ∈ gs, ∃ x y rest, g = x :: y :: rest ∧
    checkOverlap x y d = true ∧ joinRows P x y = .ok (some r)) (by simp) ?_ h
  intro g gs j s j1 s1 _ ih hs r hr
  rcases List.mem_append.1 hr with hr | hr
  · rcases resolveGroup_ok hs with ⟨x, y, rest, r', hg, hc, hj, rfl, _⟩ | ⟨rfl, _⟩
    · cases List.mem_singleton.1 hr
      exact ⟨g, List.mem_cons_self, x, y, rest, hg, hc, hj⟩
    · cases hr
  · obtain ⟨g', hg', rest⟩ := ih r hr
    exact ⟨g', List.mem_cons_of_mem _ hg', rest⟩

theorem resolveGroups_count {P : Params} {d : Int} {gs : List (List Row)} {J S : List Row}
    (h : resolveGroups P d gs = .ok (J, S)) (h2 : ∀ g ∈ gs, g.length ≤ 2) :
    S.length + 2 * J.length = (gs.map List.length).sum ∧ ∀ x ∈ S, ∃ g ∈ gs, x ∈ g := by
  revert h2
  refine resolveGroups_ind (fun gs J S => (∀ g ∈ gs, g.length ≤ 2) →
    S.length + 2 * J.length = (gs.map List.length).sum ∧ ∀ x ∈ S, ∃ g ∈ gs, x ∈ g) (by simp) ?_ h
  intro g gs j s j1 s1 _ ih hs h2
  obtain ⟨ih1, ih2⟩ := ih fun g' hg' => h2 g' (List.mem_cons_of_mem _ hg')
  have hlen := h2 g List.mem_cons_self
  have lift : ∀ x ∈ s, ∃ g' ∈ g :: gs, x ∈ g' := fun x hx =>
    (ih2 x hx).imp fun g' h => ⟨List.mem_cons_of_mem _ h.1, h.2⟩
  rcases resolveGroup_ok hs with ⟨x, y, rest, r, rfl, _, _, rfl, rfl⟩ | ⟨rfl, rfl⟩
  · refine ⟨?_, lift⟩
    -- a joined group has exactly the two rows that were joined
    simp only [List.length_cons] at hlen
    have : rest.length = 0 := by omega
    simp only [List.map_cons, List.sum_cons, List.length_cons, List.length_append, List.length_nil, this]
    omega
  · refine ⟨?_, fun z hz => ?_⟩
    · simp only [List.map_cons, List.sum_cons, List.length_append, List.nil_append]
      omega
    · rcases List.mem_append.1 hz with hz | hz
      · exact ⟨_, List.mem_cons_self, hz⟩
      · exact lift z hz

theorem sum_length_regroup (k : Row → Int) : ∀ (GS : List (List Row)),
    ((GS.flatMap fun g => groupAdj k (isort k g)).map List.length).sum = (GS.map List.length).sum
  | [] => rfl
  | g :: GS => by
    rw [List.flatMap_cons, List.map_append, List.sum_append, sum_length_regroup k GS, List.map_cons,
      List.sum_cons, ← List.length_flatten, groupAdj_flatten, isort_length]

theorem groupsOf_sum_length (rows : List Row) : ((groupsOf rows).map List.length).sum = rows.length := by
  unfold groupsOf
  rw [sum_length_regroup, ← List.length_flatten, groupAdj_flatten, isort_length]

theorem groupsOf_class {rows g : List Row} (hg : g ∈ groupsOf rows) :
    ∃ q r, g = rows.filter (fun x => x.queryId = q ∧ x.referenceId = r) := by
  unfold groupsOf at hg
  obtain ⟨G, hG, hg⟩ := List.mem_flatMap.mp hg
  obtain ⟨y, _, hGy⟩ := (mem_groupAdj_sorted _ (isort_sorted _ _) G).mp hG
  obtain ⟨x, _, hgx⟩ := (mem_groupAdj_sorted _ (isort_sorted _ _) g).mp hg
  rw [filter_isort] at hGy hgx
  refine ⟨x.queryId, y.referenceId, ?_⟩
  rw [hgx, hGy, List.filter_filter]
  apply List.filter_congr
  intro a _
  simp

theorem groupsOf_mem {rows g : List Row} (hg : g ∈ groupsOf rows) : ∀ x ∈ g, x ∈ rows := by
  obtain ⟨q, r, rfl⟩ := groupsOf_class hg
  intro x hx
  exact (List.mem_filter.mp hx).1

theorem groupsOf_qid {rows g : List Row} (hg : g ∈ groupsOf rows) :
    ∀ x ∈ g, ∀ y ∈ g, x.queryId = y.queryId := by
  obtain ⟨q, r, rfl⟩ := groupsOf_class hg
  intro x hx y hy
  have h1 := (List.mem_filter.mp hx).2
  have h2 := (List.mem_filter.mp hy).2
  simp only [decide_eq_true_eq] at h1 h2
  rw [h1.1, h2.1]

theorem _root_.Coma.Proofs.resolveRows_partition (P : Params) (d : Int) (rows joined separate : List Row)
    (h : resolveRows P d rows = .ok (joined, separate))
    (h2 : ∀ q r, (rows.filter (fun x => x.queryId = q ∧ x.referenceId = r)).length ≤ 2) :
    separate.length + 2 * joined.length = rows.length ∧ (∀ x ∈ separate, x ∈ rows) := by
  rw [resolveRows_eq] at h
  have hlen : ∀ g ∈ groupsOf rows, g.length ≤ 2 := by
    intro g hg
    obtain ⟨q, r, rfl⟩ := groupsOf_class hg
    exact h2 q r
  obtain ⟨h1, h3⟩ := resolveGroups_count h hlen
  rw [groupsOf_sum_length] at h1
  refine ⟨h1, ?_⟩
  intro x hx
  obtain ⟨g, hg, hxg⟩ := h3 x hx
  exact groupsOf_mem hg x hxg

theorem _root_.Coma.Proofs.resolveRows_eligibility (P : Params) (d : Int) (rows joined separate : List Row)
    (h : resolveRows P d rows = .ok (joined, separate)) :
    ∀ j ∈ joined, ∃ x ∈ rows, ∃ y ∈ rows,
      x.queryId = y.queryId ∧ x.referenceId = y.referenceId ∧ x.rev = y.rev ∧
      iabs (max x.rStart y.rStart - min x.rEnd y.rEnd) ≤ d ∧
      joinRows P x y = .ok (some j) := by
  rw [resolveRows_eq] at h
  intro j hj
  obtain ⟨g, hg, x, y, rest, rfl, hov, hjn⟩ := resolveGroups_joined h j hj
  have hx : x ∈ x :: y :: rest := List.mem_cons_self
  have hy : y ∈ x :: y :: rest := List.mem_cons_of_mem _ List.mem_cons_self
  unfold checkOverlap at hov
  simp only [Bool.and_eq_true, decide_eq_true_eq] at hov
  obtain ⟨⟨h1, h2⟩, h3⟩ := hov
  exact ⟨x, groupsOf_mem hg x hx, y, groupsOf_mem hg y hy, groupsOf_qid hg x hx y hy, h2, h1, h3, hjn⟩

theorem seg_ext {s s' : Seg} (h1 : s.items = s'.items) (h2 : s.peak = s'.peak) : s = s' := by
  cases s; cases s'; simp_all

/-- everything lies in the parts that `resolve_keeps_outside` says are kept -/
theorem resolve_id {P : Params} {sa sb l r : Seg} {br : Branch} {pb : Pr}
    (hB : resolvePairB P sa sb = .ok (l, r, br)) (hLa : LeftOK sa) (hRb : RightOK sb)
    (hpb : sb.pairs.head? = some pb) (hsep : Separated sa sb)
    (hAll : ∀ x ∈ sa.items, x.lessOnBoth pb = true) : l = sa ∧ r = sb := by
  obtain ⟨_, _, hpl, hpr⟩ := resolve_sublist hB
  obtain ⟨hl, hr⟩ := resolve_subrun hB hLa hRb
  cases hpe : sa.pairs.getLast? with
  | none =>
    -- no pair on the left: the left segment is empty and the step returns at once
    have h0 : sa.items = [] := (leftOK_pairs hLa).resolve_right fun h => h (List.getLast?_eq_none_iff.mp hpe)
    cases resolvePairB_step hB with
    | emptyLeft => exact ⟨rfl, rfl⟩
    | noOverlap hne => exact absurd h0 hne
    | conflict hne => exact absurd h0 hne
  | some e =>
    obtain ⟨hkl, hkr⟩ := resolve_keeps_outside hB hLa hRb hpb hpe
    rw [takeWhile_eq_self hAll] at hkl
    obtain ⟨c, tl, hc⟩ := rightOK_first hRb fun h0 => by rw [pairs_nil_of_items_nil h0] at hpb; cases hpb
    cases (first_pair hc).2.1.symm.trans hpb
    have hce := hsep e (List.mem_of_getLast? hpe) pb (List.mem_of_head? hpb)
    have hleq : pb.leqAny e = false := by
      have n1 : pb.q ≠ e.q := fun hh => by rw [hh] at hce; omega
      have n2 : pb.r ≠ e.r := fun hh => by rw [hh] at hce; omega
      simp [Pr.leqAny, n1, n2]; omega
    rw [hc, List.dropWhile_cons_of_neg (by simp [APos.isPair, APos.leqAny, hleq]), ← hc] at hkr
    exact ⟨seg_ext (hl.eq_of_length (Nat.le_antisymm hl.length_le hkl.length_le)) hpl,
      seg_ext (hr.eq_of_length (Nat.le_antisymm hr.length_le hkr.length_le)) hpr⟩

theorem row_pairs_single {a : Row} {sa : Seg} (ha : a.segments = [sa]) : a.pairs = sa.pairs := by
  unfold Row.pairs; rw [ha]; simp

/-- false without `hU` (`Modes.joinRows_union_false`) -/
theorem _root_.Coma.Proofs.joinRows_union (P : Params) (a b : Row) (sa sb : Seg) (pa pb : Pr)
    (ha : a.segments = [sa]) (hb : b.segments = [sb])
    (hpa : sa.pairs.head? = some pa) (hpb : sb.pairs.head? = some pb) (hlt : pa.r.pos < pb.r.pos)
    (hLa : LeftOK sa) (hRb : RightOK sb) (hsep : Separated sa sb)
    (hU : ∀ x ∈ sa.items, x.isPair = false → x.lessOnBoth pb = true)
    (hv : (Row.create P [sa, sb] a.queryId a.referenceId a.queryLength a.referenceLength a.rev).isOneToOneAndCollinear = true) :
    ∃ j, joinRows P a b = .ok (some j) ∧ j.pairs = sa.pairs ++ sb.pairs := by
  have hAll : ∀ x ∈ sa.items, x.lessOnBoth pb = true := by
    intro x hx
    cases x with
    | pair p =>
      have := hsep p (mem_pairsOf.mpr hx) pb (List.mem_of_head? hpb)
      simp only [APos.lessOnBoth, lessOnBoth_iff]; omega
    | uref r => exact hU _ hx rfl
    | uqry q s => exact hU _ hx rfl
  obtain ⟨l, r, br, hB⟩ := resolve_total P sa sb hLa hRb
  obtain ⟨rfl, rfl⟩ := resolve_id hB hLa hRb hpb hsep hAll
  obtain ⟨ta, hta⟩ := List.head?_eq_some_iff.mp hpa
  obtain ⟨tb, htb⟩ := List.head?_eq_some_iff.mp hpb
  refine ⟨Row.create P [l, r] a.queryId a.referenceId a.queryLength a.referenceLength a.rev, ?_,
    congrArg (l.pairs ++ ·) (List.append_nil _)⟩
  rw [joinRows_cons ((row_pairs_single ha).trans hta) ((row_pairs_single hb).trans htb) ha hb, if_pos hlt,
    ConflictAll.resolvePair_ok_iff.mpr ⟨br, hB⟩]
  exact congrArg Except.ok (if_pos hv)

theorem ex_of_opt {α} {X : Except Err (Option α)} {P : α → Prop} [DecidablePred P]
    (h : ((X.toOption.bind id).map (fun j => decide (P j))) = some true) :
    ∃ j, X = .ok (some j) ∧ P j := by
  cases X with
  | error e => cases h
  | ok o =>
    cases o with
    | none => cases h
    | some j =>
      refine ⟨j, rfl, ?_⟩
      simpa [Except.toOption] using h

theorem ex_of_ok {α} {X : Except Err α} {P : α → Prop} [DecidablePred P]
    (h : (X.toOption.map (fun j => decide (P j))) = some true) :
    ∃ j, X = .ok j ∧ P j := by
  cases X with
  | error e => cases h
  | ok j =>
      refine ⟨j, rfl, ?_⟩
      simpa [Except.toOption] using h

/-- `joinRows_union` without `hU` is false: the unpaired reference label `⟨9, 1000⟩` between the two
    pairs of `sa` is not before the first pair of `sb`, the step takes the `dropLeft` branch and the
    pair `(2, 2)` is lost although every other hypothesis holds. -/
theorem joinRows_union_counterexample :
    ∃ (P : Params) (a b : Row) (sa sb : Seg) (pa pb : Pr),
      a.segments = [sa] ∧ b.segments = [sb] ∧
      sa.pairs.head? = some pa ∧ sb.pairs.head? = some pb ∧ pa.r.pos < pb.r.pos ∧
      LeftOK sa ∧ RightOK sb ∧ StrictCoords sa sb ∧ Separated sa sb ∧
      (Row.create P [sa, sb] a.queryId a.referenceId a.queryLength a.referenceLength a.rev).isOneToOneAndCollinear = true ∧
      ∃ j, joinRows P a b = .ok (some j) ∧ j.pairs ≠ sa.pairs ++ sb.pairs := by
  refine ⟨⟨1000, 1, -250, 1500, 1000, 1200⟩,
    { (default : Row) with segments := [⟨0, [.pair ⟨⟨1, 10⟩, ⟨1, 10⟩, 0, 0⟩, .uref ⟨9, 1000⟩, .pair ⟨⟨2, 20⟩, ⟨2, 20⟩, 900, 0⟩]⟩] },
    { (default : Row) with segments := [⟨0, [.pair ⟨⟨6, 60⟩, ⟨6, 60⟩, 0, 0⟩, .pair ⟨⟨7, 70⟩, ⟨7, 70⟩, 0, 0⟩]⟩] },
    ⟨0, [.pair ⟨⟨1, 10⟩, ⟨1, 10⟩, 0, 0⟩, .uref ⟨9, 1000⟩, .pair ⟨⟨2, 20⟩, ⟨2, 20⟩, 900, 0⟩]⟩,
    ⟨0, [.pair ⟨⟨6, 60⟩, ⟨6, 60⟩, 0, 0⟩, .pair ⟨⟨7, 70⟩, ⟨7, 70⟩, 0, 0⟩]⟩,
    ⟨⟨1, 10⟩, ⟨1, 10⟩, 0, 0⟩, ⟨⟨6, 60⟩, ⟨6, 60⟩, 0, 0⟩, rfl, rfl, rfl, rfl, by decide, ?_, ?_, ?_, ?_, ?_, ?_⟩
  · exact ⟨by unfold PyNodup; decide +kernel, Or.inr ⟨_, rfl⟩, by unfold PairsAscending; decide +kernel⟩
  · exact ⟨by unfold PyNodup; decide +kernel, Or.inr ⟨_, rfl⟩, by unfold PairsAscending; decide +kernel⟩
  · unfold StrictCoords; decide +kernel
  · unfold Separated; decide +kernel
  · decide +kernel
  · apply ex_of_opt
    decide +kernel

/-- the statement of `Coma.Proofs.joinRows_union` without `hU` (and with `StrictCoords`) -/
theorem joinRows_union_false :
    ¬ ∀ (P : Params) (a b : Row) (sa sb : Seg) (pa pb : Pr),
      a.segments = [sa] → b.segments = [sb] →
      sa.pairs.head? = some pa → sb.pairs.head? = some pb → pa.r.pos < pb.r.pos →
      LeftOK sa → RightOK sb → StrictCoords sa sb → Separated sa sb →
      (Row.create P [sa, sb] a.queryId a.referenceId a.queryLength a.referenceLength a.rev).isOneToOneAndCollinear = true →
      ∃ j, joinRows P a b = .ok (some j) ∧ j.pairs = sa.pairs ++ sb.pairs := by
  intro H
  obtain ⟨P, a, b, sa, sb, pa, pb, h1, h2, h3, h4, h5, h6, h7, h8, h9, h10, j, hj, hne⟩ :=
    joinRows_union_counterexample
  obtain ⟨j', hj', he⟩ := H P a b sa sb pa pb h1 h2 h3 h4 h5 h6 h7 h8 h9 h10
  rw [hj] at hj'
  injection hj' with hj'
  injection hj' with hj'
  subst hj'
  exact hne he

end Modes

theorem mode_files (cfg : Cfg) (refs : List OMap) (t : SeedTable) (qs : List OMap) (it : Int)
    (oa oj os : Output)
    (ha : execute cfg .all refs t qs it = .ok oa) (hj : execute cfg .joined refs t qs it = .ok oj)
    (hs : execute cfg .separate refs t qs it = .ok os) :
    oa.main = oj.main ∧
    (∃ f1 f2 s1, oa.extra = [(1, f1), (2, f2)] ∧ os.extra = [(1, s1)] ∧ f1 = os.main ∧ f2 = s1) := by
  obtain ⟨first, h1, second, h2, ha⟩ := execute_ok_iff.mp ha
  rw [execute_of_passes h1 h2 (by decide)] at hj hs
  obtain ⟨j, s, hr, rfl⟩ := (execRest_ok_iff (by decide)).mp ha
  obtain ⟨_, _, hr', rfl⟩ := (execRest_ok_iff (by decide)).mp hj
  cases hr.symm.trans hr'
  cases hs
  exact ⟨rfl, _, _, _, rfl, rfl, (fbq_fixed _ (fbq_strict first)).symm, rfl⟩

theorem aligned_rest_flags (cfg : Cfg) (refs : List OMap) (t : SeedTable) (qs : List OMap) (it : Int)
    (os : Output) (hs : execute cfg .separate refs t qs it = .ok os) :
    (∀ r ∈ os.main, r.alignedRest = false) ∧ (∀ f ∈ os.extra, ∀ r ∈ f.2, r.alignedRest = true) := by
  obtain ⟨first, h1, second, h2, hs⟩ := execute_ok_iff.mp hs
  cases hs
  constructor
  · -- a first-pass row is a candidate as the aligner built it
    intro r hr
    obtain ⟨_, _, _, _, _, _, _, ha⟩ := executeSingle_origin h1 r (fbq_mem _ r (fbq_mem _ r hr))
    exact (alignerAlign_fields _ _ _ _ _ _ _ _ ha).2.2.2.2.2.1
  · -- the second pass sets the flag on every row it returns
    intro f hf r hr
    cases List.mem_singleton.mp hf
    obtain ⟨_, _, _, _, rfl⟩ := secondPass_ok_iff.mp h2
    obtain ⟨r', _, rfl⟩ := List.mem_map.mp (fbq_mem _ r hr)
    rfl

theorem execute_best_ids (cfg : Cfg) (refs : List OMap) (t : SeedTable) (qs : List OMap) (it : Int)
    (first second : List Row) (out : Output)
    (h1 : executeSingle cfg refs t qs it = .ok first) (h2 : secondPass cfg refs t qs first it = .ok second)
    (h : execute cfg .best refs t qs it = .ok out) :
    ∀ q, q ∈ out.main.map (·.queryId) ↔ q ∈ (first ++ second).map (·.queryId) := by
  rw [execute_of_passes h1 h2 (by decide)] at h
  obtain ⟨j, s, hres, rfl⟩ := (execRest_ok_iff (by decide)).mp h
  have hp : pass1 .best first second = filterBestPerQuery (first ++ second) := rfl
  rw [hp] at hres ⊢
  have hj : ∀ r ∈ j, ∃ x ∈ filterBestPerQuery (first ++ second) ++ filterBestPerQuery second,
      r.queryId = x.queryId := by
    intro r hr
    obtain ⟨x, hx, y, _, _, _, _, _, hjn⟩ := resolveRows_eligibility _ _ _ j s hres r hr
    exact ⟨x, hx, (joinRows_subset _ x y r hjn).2.1⟩
  intro q
  show q ∈ (filterBestPerQuery _).map (·.queryId) ↔ _
  rw [fbq_ids]
  simp only [List.mem_map, mem_isort, List.mem_append, List.mem_filter]
  constructor
  · rintro ⟨r, hr, rfl⟩
    rcases hr with hr | ⟨hr, _⟩
    · obtain ⟨x, hx, hq⟩ := hj r hr
      rcases List.mem_append.1 hx with hx | hx
      · exact ⟨x, List.mem_append.1 (fbq_mem _ x hx), hq.symm⟩
      · exact ⟨x, Or.inr (fbq_mem _ x hx), hq.symm⟩
    · exact ⟨r, List.mem_append.1 (fbq_mem _ r hr), rfl⟩
  · rintro ⟨x, hx, rfl⟩
    obtain ⟨r, hr, hq, _⟩ := fbq_best (first ++ second) x (List.mem_append.2 hx)
    by_cases hc : (j.map (·.queryId)).contains r.queryId = true
    · rw [List.contains_iff_mem, List.mem_map] at hc
      obtain ⟨r', hr', hq'⟩ := hc
      exact ⟨r', Or.inl hr', hq'.trans hq⟩
    · exact ⟨r, Or.inr ⟨hr, by simpa using hc⟩, hq⟩

end Coma.Proofs
