import Coma.Sort
import Proofs.ListLemmas

/-
  "Key-sorted" is `(l.map key).Pairwise (· ≤ ·)` in every statement a caller meets.  The lemmas used inside an induction
  along the list, where the hypothesis passes to tails, filters and sublists, take
  `l.Pairwise (fun a b => key a ≤ key b)`; `List.pairwise_map` turns one form into the other.
-/
namespace Coma.Proofs

theorem insertByKey_perm {α} (key : α → Int) (a : α) (l : List α) :
    (insertByKey key a l).Perm (a :: l) := by
  induction l with
  | nil => simp [insertByKey]
  | cons b bs ih =>
    simp only [insertByKey]
    split
    · exact List.Perm.refl _
    · exact (List.Perm.cons b ih).trans (List.Perm.swap a b bs)

theorem isort_perm {α} (key : α → Int) (l : List α) : (isort key l).Perm l := by
  induction l with
  | nil => simp [isort]
  | cons a as ih =>
    simp only [isort]
    exact (insertByKey_perm key a _).trans (List.Perm.cons a ih)

theorem mem_isort {α} {key : α → Int} {l : List α} {x : α} : x ∈ isort key l ↔ x ∈ l :=
  (isort_perm key l).mem_iff

theorem isort_length {α} (key : α → Int) (l : List α) : (isort key l).length = l.length :=
  (isort_perm key l).length_eq

theorem insertByKey_sorted {α} (key : α → Int) (a : α) (l : List α)
    (h : (l.map key).Pairwise (· ≤ ·)) : ((insertByKey key a l).map key).Pairwise (· ≤ ·) := by
  rw [List.pairwise_map] at h ⊢
  induction l with
  | nil => exact List.pairwise_singleton _ _
  | cons b bs ih =>
    rw [List.pairwise_cons] at h
    simp only [insertByKey]
    split
    · next hab =>
      refine List.pairwise_cons.2 ⟨fun x hx => Int.le_trans hab ?_, List.pairwise_cons.2 h⟩
      rcases List.mem_cons.1 hx with rfl | hx
      · exact Int.le_refl _
      · exact h.1 x hx
    · next hab =>
      refine List.pairwise_cons.2 ⟨fun x hx => ?_, ih h.2⟩
      rcases List.mem_cons.1 ((insertByKey_perm key a bs).mem_iff.1 hx) with rfl | hx
      · omega
      · exact h.1 x hx

theorem isort_sorted {α} (key : α → Int) (l : List α) :
    ((isort key l).map key).Pairwise (· ≤ ·) := by
  induction l with
  | nil => simp [isort]
  | cons a as ih => exact insertByKey_sorted key a _ ih

theorem isort_eq_nil {α} (key : α → Int) (l : List α) : isort key l = [] ↔ l = [] := by
  rw [← List.length_eq_zero_iff, isort_length, List.length_eq_zero_iff]

theorem isort_eq_of_perm {α} (key : α → Int) {l l' : List α} (hp : l.Perm l')
    (hinj : ∀ a ∈ l, ∀ b ∈ l, key a = key b → a = b) : isort key l = isort key l' := by
  have s := isort_sorted key l
  have s' := isort_sorted key l'
  rw [List.pairwise_map] at s s'
  refine List.Perm.eq_of_pairwise (le := fun a b => key a ≤ key b) (fun a b ha hb h1 h2 => ?_) s s'
    ((isort_perm _ l).trans (hp.trans (isort_perm _ l').symm))
  exact hinj a (mem_isort.1 ha) b (hp.mem_iff.2 (mem_isort.1 hb)) (by omega)

theorem insertByKey_map_of_le_iff {α β} (f : β → α) (key : α → Int) (key' : β → Int)
    (h : ∀ x y, key (f x) ≤ key (f y) ↔ key' x ≤ key' y) (a : β) (l : List β) :
    insertByKey key (f a) (l.map f) = (insertByKey key' a l).map f := by
  induction l with
  | nil => rfl
  | cons b bs ih =>
    simp only [insertByKey, List.map_cons, h]
    split
    · rfl
    · rw [ih]; rfl

theorem isort_map_of_le_iff {α β} (f : β → α) (key : α → Int) (key' : β → Int)
    (h : ∀ x y, key (f x) ≤ key (f y) ↔ key' x ≤ key' y) (l : List β) :
    isort key (l.map f) = (isort key' l).map f := by
  induction l with
  | nil => rfl
  | cons a as ih =>
    simp only [isort, List.map_cons, ih]
    exact insertByKey_map_of_le_iff f key key' h a _

theorem isort_map {α β} (f : β → α) (key : α → Int) (key' : β → Int)
    (h : ∀ x, key (f x) = key' x) (l : List β) :
    isort key (l.map f) = (isort key' l).map f :=
  isort_map_of_le_iff f key key' (fun x y => by rw [h, h]) l

theorem insertByKey_of_le {α} (key : α → Int) (a : α) (l : List α)
    (h : ∀ x ∈ l, key a ≤ key x) : insertByKey key a l = a :: l := by
  cases l with
  | nil => rfl
  | cons b bs => simp [insertByKey, h b (List.mem_cons_self)]

theorem isort_of_sorted {α} (key : α → Int) (l : List α)
    (h : (l.map key).Pairwise (· ≤ ·)) : isort key l = l := by
  induction l with
  | nil => rfl
  | cons a as ih =>
    rw [List.map_cons, List.pairwise_cons] at h
    simp only [isort, ih h.2]
    exact insertByKey_of_le key a as (fun x hx => h.1 _ (List.mem_map_of_mem hx))

theorem sorted_tail_le {α} (key : α → Int) (b : α) (bs : List α) (hs : ((b :: bs).map key).Pairwise (· ≤ ·)) :
    ∀ x ∈ b :: bs, key b ≤ key x := fun x hx =>
  (pairwise_ge_head (List.pairwise_map.1 hs) rfl x hx).elim (fun e => Int.le_of_eq (congrArg key e.symm)) id

theorem filter_insertByKey_comm {α} (key : α → Int) (p : α → Bool) (a : α) (l : List α)
    (hs : (l.map key).Pairwise (· ≤ ·)) :
    (insertByKey key a l).filter p =
      if p a then insertByKey key a (l.filter p) else l.filter p := by
  induction l with
  | nil => cases h : p a <;> simp [insertByKey, h]
  | cons b bs ih =>
    have hle := sorted_tail_le key b bs hs
    rw [List.map_cons, List.pairwise_cons] at hs
    simp only [insertByKey]
    split
    · rename_i hab
      have hins : insertByKey key a ((b :: bs).filter p) = a :: (b :: bs).filter p :=
        insertByKey_of_le key a _ (fun x hx => Int.le_trans hab (hle x (List.mem_filter.1 hx).1))
      rw [hins]
      cases h : p a <;> simp [List.filter_cons, h]
    · rename_i hab
      rw [List.filter_cons, ih hs.2]
      cases hb : p b <;> cases ha : p a <;> simp [hb, insertByKey, hab]

theorem filter_isort_comm {α} (key : α → Int) (p : α → Bool) (l : List α) :
    (isort key l).filter p = isort key (l.filter p) := by
  induction l with
  | nil => rfl
  | cons x xs ih =>
    show (insertByKey key x (isort key xs)).filter p = _
    rw [filter_insertByKey_comm key p x _ (isort_sorted key xs), ih, List.filter_cons]
    cases h : p x <;> simp [isort]

theorem filter_isort {α} (key : α → Int) (k : Int) (l : List α) :
    (isort key l).filter (fun y => decide (key y = k)) = l.filter (fun y => decide (key y = k)) := by
  rw [filter_isort_comm]
  refine isort_of_sorted key _ (List.pairwise_map.2 (List.pairwise_of_forall_mem_list fun a ha b hb => ?_))
  have ha := (List.mem_filter.1 ha).2
  have hb := (List.mem_filter.1 hb).2
  simp only [decide_eq_true_eq] at ha hb
  omega

/-- the sort keeps the order of the elements with the head's key (`filter_isort`), so the head is the first of them
    in the input -/
theorem isort_head_split {α} (key : α → Int) (l : List α) (m : α) (rest : List α)
    (h : isort key l = m :: rest) :
    ∃ l1 l2, l = l1 ++ m :: l2 ∧ (∀ x ∈ l1, key m < key x) ∧ (∀ x ∈ l2, key m ≤ key x) := by
  have hs := List.pairwise_map.1 (isort_sorted key l)
  have hmin : ∀ x ∈ l, key m ≤ key x := by
    intro x hx
    have hx' : x ∈ isort key l := mem_isort.2 hx
    rw [h] at hs hx'
    rcases List.mem_cons.1 hx' with rfl | hx'
    · exact Int.le_refl _
    · exact (List.pairwise_cons.1 hs).1 x hx'
  have hst := filter_isort key (key m) l
  rw [h, List.filter_cons, if_pos (by simp)] at hst
  obtain ⟨l1, l2, rfl, h1, _, _⟩ := List.filter_eq_cons_iff.1 hst.symm
  refine ⟨l1, l2, rfl, fun x hx => ?_, fun x hx => hmin x (by simp [hx])⟩
  have := hmin x (by simp [hx])
  have := h1 x hx
  simp only [decide_eq_true_eq] at this
  omega

section GroupAdj
universe u v
variable {α : Type u} (key : α → Int)

theorem groupAdj_cons (x : α) (xs : List α) :
    groupAdj key (x :: xs) =
      (x :: xs.takeWhile (fun y => decide (key y = key x))) ::
        groupAdj key (xs.dropWhile (fun y => decide (key y = key x))) := by
  induction xs generalizing x with
  | nil => rfl
  | cons y ys ih =>
    have e : groupAdj key (x :: y :: ys) =
      (match groupAdj key (y :: ys) with
        | (y' :: g) :: gs => if key x = key y' then (x :: y' :: g) :: gs else [x] :: (y' :: g) :: gs
        | _ => [[x]]) := rfl
    rw [e, ih y]
    simp only [List.takeWhile_cons, List.dropWhile_cons]
    by_cases h : key x = key y
    · rw [h]; simp
    · have h' : ¬ key y = key x := fun e => h e.symm
      simp [h, h', ih y]

theorem groupAdj_rec {motive : List α → List (List α) → Prop} (nil : motive [] [])
    (run : ∀ x xs, motive (xs.dropWhile (fun y => decide (key y = key x)))
        (groupAdj key (xs.dropWhile (fun y => decide (key y = key x)))) →
      motive (x :: xs) ((x :: xs.takeWhile (fun y => decide (key y = key x))) ::
        groupAdj key (xs.dropWhile (fun y => decide (key y = key x))))) :
    ∀ xs, motive xs (groupAdj key xs)
  | [] => nil
  | x :: xs => by
    rw [groupAdj_cons]
    exact run x xs (groupAdj_rec nil run _)
termination_by xs => xs.length
decreasing_by
  have := (List.dropWhile_sublist (fun y => decide (key y = key x)) (l := xs)).length_le
  simp only [List.length_cons]
  omega

theorem groupAdj_ne_nil (xs : List α) : ∀ g ∈ groupAdj key xs, g ≠ [] := by
  refine groupAdj_rec key (motive := fun _ gs => ∀ g ∈ gs, g ≠ []) (fun g hg => by cases hg) ?_ xs
  intro x xs ih g hg
  rcases List.mem_cons.1 hg with rfl | hg
  · exact List.cons_ne_nil _ _
  · exact ih g hg

theorem groupAdj_flatten (xs : List α) : (groupAdj key xs).flatten = xs := by
  refine groupAdj_rec key (motive := fun xs gs => gs.flatten = xs) rfl ?_ xs
  intro x xs ih
  rw [List.flatten_cons, ih, List.cons_append, List.takeWhile_append_dropWhile]

theorem mem_of_mem_groupAdj {xs : List α} {g : List α} {x : α}
    (hg : g ∈ groupAdj key xs) (hx : x ∈ g) : x ∈ xs := by
  rw [← groupAdj_flatten key xs]
  exact List.mem_flatten.2 ⟨g, hg, hx⟩

theorem groupAdj_key_eq (xs : List α) :
    ∀ g ∈ groupAdj key xs, ∀ a ∈ g, ∀ b ∈ g, key a = key b := by
  refine groupAdj_rec key (motive := fun _ gs => ∀ g ∈ gs, ∀ a ∈ g, ∀ b ∈ g, key a = key b)
    (fun g hg => by cases hg) ?_ xs
  intro x xs ih g hg
  rcases List.mem_cons.1 hg with rfl | hg
  · have hx : ∀ a ∈ x :: xs.takeWhile (fun y => decide (key y = key x)), key a = key x := by
      intro a ha
      rcases List.mem_cons.1 ha with rfl | ha
      · rfl
      · exact of_decide_eq_true (mem_takeWhile_imp ha :)
    intro a ha b hb
    rw [hx a ha, hx b hb]
  · exact ih g hg

theorem groupAdj_rec_sorted {motive : List α → List (List α) → Prop} (nil : motive [] [])
    (run : ∀ x A B, (∀ a ∈ A, key a = key x) → (∀ b ∈ B, key x < key b) → motive B (groupAdj key B) →
      motive (x :: (A ++ B)) ((x :: A) :: groupAdj key B))
    (xs : List α) (hs : (xs.map key).Pairwise (· ≤ ·)) : motive xs (groupAdj key xs) := by
  rw [List.pairwise_map] at hs
  revert hs
  refine groupAdj_rec key (motive := fun xs gs => xs.Pairwise (fun a b => key a ≤ key b) → motive xs gs)
    (fun _ => nil) ?_ xs
  intro x xs ih hs
  rw [List.pairwise_cons] at hs
  have hA : ∀ a ∈ xs.takeWhile (fun y => decide (key y = key x)), key a = key x :=
    fun a ha => of_decide_eq_true (mem_takeWhile_imp ha :)
  have hB : ∀ b ∈ xs.dropWhile (fun y => decide (key y = key x)), key x < key b := by
    intro b hb
    -- nothing is below `key x`, so what has its key comes first
    rw [dropWhile_eq_filter _ xs (hs.2.imp_of_mem fun {a b} ha _ hab hb => by
      have := hs.1 a ha
      simp only [decide_eq_true_eq] at hb ⊢
      omega)] at hb
    obtain ⟨hb1, hb2⟩ := List.mem_filter.1 hb
    have := hs.1 b hb1
    simp only [Bool.not_eq_true', decide_eq_false_iff_not] at hb2
    omega
  have h := run x _ _ hA hB (ih (hs.2.sublist (List.dropWhile_sublist _)))
  rwa [List.takeWhile_append_dropWhile] at h

theorem groupAdj_sorted (xs : List α) (h : (xs.map key).Pairwise (· ≤ ·)) :
    (groupAdj key xs).Pairwise (fun g g' => ∀ a ∈ g, ∀ b ∈ g', key a < key b) := by
  refine groupAdj_rec_sorted key (motive := fun _ gs => gs.Pairwise fun g g' => ∀ a ∈ g, ∀ b ∈ g', key a < key b)
    .nil ?_ xs h
  intro x A B hA hB ih
  refine List.pairwise_cons.2 ⟨fun g' hg' a ha b hb => ?_, ih⟩
  have hb' := hB b (mem_of_mem_groupAdj key hg' hb)
  rcases List.mem_cons.1 ha with rfl | ha
  · exact hb'
  · rw [hA a ha]; exact hb'

theorem mem_groupAdj_sorted {L : List α} (hs : (L.map key).Pairwise (· ≤ ·)) (g : List α) :
    g ∈ groupAdj key L ↔ ∃ x ∈ L, g = L.filter (fun y => decide (key y = key x)) := by
  revert g
  refine groupAdj_rec_sorted key (motive := fun L gs => ∀ g, g ∈ gs ↔
    ∃ x ∈ L, g = L.filter (fun y => decide (key y = key x))) (fun g => by simp) ?_ L hs
  intro x A B hA hB ih g
  rw [List.mem_cons, ih g]
  -- the class of `x` is the first run, the class of a later element lies in the rest
  have F1 : (x :: (A ++ B)).filter (fun y => decide (key y = key x)) = x :: A := by
    rw [List.filter_cons, List.filter_append]
    have h1 : A.filter (fun y => decide (key y = key x)) = A :=
      List.filter_eq_self.2 (fun a ha => by simp [hA a ha])
    have h2 : B.filter (fun y => decide (key y = key x)) = [] :=
      List.filter_eq_nil_iff.2 (fun b hb => by have := hB b hb; simp; omega)
    simp [h1, h2]
  have F2 : ∀ y ∈ B, (x :: (A ++ B)).filter (fun z => decide (key z = key y)) =
      B.filter (fun z => decide (key z = key y)) := by
    intro y hy
    have hy' := hB y hy
    rw [List.filter_cons, List.filter_append]
    have h1 : A.filter (fun z => decide (key z = key y)) = [] :=
      List.filter_eq_nil_iff.2 (fun a ha => by have := hA a ha; simp; omega)
    have h2 : ¬ key x = key y := by omega
    simp [h1, h2]
  constructor
  · rintro (rfl | ⟨y, hy, rfl⟩)
    · exact ⟨x, List.mem_cons_self, F1.symm⟩
    · exact ⟨y, List.mem_cons_of_mem _ (List.mem_append_right _ hy), (F2 y hy).symm⟩
  · rintro ⟨z, hz, rfl⟩
    rcases List.mem_cons.1 hz with rfl | hz
    · exact Or.inl F1
    · rcases List.mem_append.1 hz with hz | hz
      · rw [hA z hz]
        exact Or.inl F1
      · exact Or.inr ⟨z, hz, F2 z hz⟩

theorem groupAdj_map_of_eq_iff {β : Type v} (f : β → α) (key' : β → Int)
    (h : ∀ x y, key (f x) = key (f y) ↔ key' x = key' y) (l : List β) :
    groupAdj key (l.map f) = (groupAdj key' l).map (List.map f) := by
  refine groupAdj_rec key' (motive := fun l gs => groupAdj key (l.map f) = gs.map (List.map f)) rfl ?_ l
  intro x xs ih
  have e : ((fun y => decide (key y = key (f x))) ∘ f) = (fun y => decide (key' y = key' x)) :=
    funext fun y => decide_eq_decide.2 (h y x)
  rw [List.map_cons, groupAdj_cons, List.takeWhile_map, List.dropWhile_map, e, ih]
  rfl

theorem groupAdj_flatten_eq (GS : List (List α)) (hne : ∀ g ∈ GS, g ≠ [])
    (hu : ∀ g ∈ GS, ∀ a ∈ g, ∀ b ∈ g, key a = key b)
    (hd : GS.Pairwise (fun g g' => ∀ a ∈ g, ∀ b ∈ g', key a ≠ key b)) :
    groupAdj key GS.flatten = GS := by
  induction GS with
  | nil => rfl
  | cons g GS ih =>
    rw [List.pairwise_cons] at hd
    cases g with
    | nil => exact absurd rfl (hne [] List.mem_cons_self)
    | cons x g' =>
      rw [List.flatten_cons, List.cons_append, groupAdj_cons]
      have hA : ∀ y ∈ g', decide (key y = key x) = true := by
        intro y hy
        simp only [decide_eq_true_eq]
        exact hu (x :: g') List.mem_cons_self y (List.mem_cons_of_mem _ hy) x List.mem_cons_self
      have hB : ∀ y ∈ GS.flatten, decide (key y = key x) = false := by
        intro y hy
        obtain ⟨g2, hg2, hy2⟩ := List.mem_flatten.1 hy
        simp only [decide_eq_false_iff_not]
        exact fun e => hd.1 g2 hg2 x List.mem_cons_self y hy2 e.symm
      rw [List.takeWhile_append_of_pos hA, takeWhile_none hB, List.append_nil,
        List.dropWhile_append_of_pos hA, dropWhile_none hB,
        ih (fun g hg => hne g (List.mem_cons_of_mem _ hg))
          (fun g hg => hu g (List.mem_cons_of_mem _ hg)) hd.2]

theorem groupAdj_strict (l : List α) (h : (l.map key).Pairwise (· < ·)) :
    groupAdj key l = l.map (fun x => [x]) := by
  conv => lhs; rw [← List.flatMap_singleton' l, List.flatMap_def]
  refine groupAdj_flatten_eq key _ (fun g hg => ?_) (fun g hg a ha b hb => ?_)
    (List.pairwise_map.2 ((List.pairwise_map.1 h).imp fun hxy a ha b hb => ?_))
  · obtain ⟨x, _, rfl⟩ := List.mem_map.1 hg
    exact List.cons_ne_nil _ _
  · obtain ⟨x, _, rfl⟩ := List.mem_map.1 hg
    rw [List.mem_singleton.1 ha, List.mem_singleton.1 hb]
  · rw [List.mem_singleton.1 ha, List.mem_singleton.1 hb]
    exact Int.ne_of_lt hxy

theorem groupAdj_filter (p : α → Bool) (T : List α) (hs : (T.map key).Pairwise (· ≤ ·)) :
    groupAdj key (T.filter p) =
      ((groupAdj key T).map (List.filter p)).filter (fun g => !g.isEmpty) := by
  have h0 : T.filter p =
      (((groupAdj key T).map (List.filter p)).filter (fun g => !g.isEmpty)).flatten := by
    rw [← List.flatMap_id, flatMap_filter_nonempty _ rfl, List.flatMap_id, ← List.filter_flatten, groupAdj_flatten]
  conv => lhs; rw [h0]
  apply groupAdj_flatten_eq
  · intro g hg
    have := (List.mem_filter.1 hg).2
    intro h; rw [h] at this; simp at this
  · intro g hg a ha b hb
    obtain ⟨g0, hg0, rfl⟩ := List.mem_map.1 (List.mem_filter.1 hg).1
    exact groupAdj_key_eq key T g0 hg0 a (List.mem_filter.1 ha).1 b (List.mem_filter.1 hb).1
  · apply List.Pairwise.filter
    refine List.Pairwise.map _ ?_ (groupAdj_sorted key T hs)
    intro g g' h a ha b hb
    exact Int.ne_of_lt (h a (List.mem_filter.1 ha).1 b (List.mem_filter.1 hb).1)

theorem heads_filter (k : Int) (S : List α) (hs : (S.map key).Pairwise (· ≤ ·)) :
    ((groupAdj key S).filterMap List.head?).filter (fun y => decide (key y = k)) =
      (S.filter (fun y => decide (key y = k))).head?.toList := by
  refine groupAdj_rec_sorted key (motive := fun S gs => (gs.filterMap List.head?).filter (fun y => decide (key y = k)) =
    (S.filter (fun y => decide (key y = k))).head?.toList) rfl ?_ S hs
  intro x A B hA hB ih
  rw [List.filterMap_cons_some List.head?_cons, List.filter_cons, ih, List.filter_cons]
  by_cases hx : key x = k
  · -- the first run is the class of `k`: none of it is left in the rest
    rw [if_pos (decide_eq_true hx), if_pos (decide_eq_true hx),
      List.filter_eq_nil_iff.2 fun b hb hbk => by have := hB b hb; have := of_decide_eq_true hbk; omega]
    rfl
  · -- nothing in the first run has key `k`
    rw [if_neg (mt of_decide_eq_true hx), if_neg (mt of_decide_eq_true hx), List.filter_append,
      List.filter_eq_nil_iff.2 fun a ha hak => hx ((hA a ha).symm.trans (of_decide_eq_true hak)), List.nil_append]

end GroupAdj

theorem groupAdj_map {α β} (f : β → α) (key : α → Int) (key' : β → Int)
    (h : ∀ x, key (f x) = key' x) (l : List β) :
    groupAdj key (l.map f) = (groupAdj key' l).map (List.map f) :=
  groupAdj_map_of_eq_iff key f key' (fun x y => by rw [h, h]) l

section MinBy
universe u
variable {α : Type u} (f : α → Int)

/-- the loop invariant: what lies before the current best `a` (`pre`) is strictly greater, what has been passed
    since (`mid`) is at least as great -/
theorem minByFrom_split_aux (l : List α) : ∀ (pre mid : List α) (a : α), (∀ c ∈ pre, f a < f c) →
    (∀ c ∈ mid, f a ≤ f c) → ∃ l1 l2, pre ++ a :: (mid ++ l) = l1 ++ minByFrom f a l :: l2 ∧
      (∀ c ∈ l1, f (minByFrom f a l) < f c) ∧ (∀ c ∈ l2, f (minByFrom f a l) ≤ f c) := by
  induction l with
  | nil => exact fun pre mid a h1 h2 => ⟨pre, mid, by rw [List.append_nil]; rfl, h1, h2⟩
  | cons b bs ih =>
    intro pre mid a h1 h2
    simp only [minByFrom]
    split
    · next hb =>
      obtain ⟨l1, l2, e, h⟩ := ih (pre ++ a :: mid) [] b (fun c hc => by
        rcases List.mem_append.1 hc with hc | hc
        · exact Int.lt_trans hb (h1 c hc)
        · rcases List.mem_cons.1 hc with rfl | hc
          · exact hb
          · exact Int.lt_of_lt_of_le hb (h2 c hc)) (fun _ hc => nomatch hc)
      exact ⟨l1, l2, by rw [← e]; simp, h⟩
    · next hb =>
      obtain ⟨l1, l2, e, h⟩ := ih pre (mid ++ [b]) a h1 (fun c hc => by
        rcases List.mem_append.1 hc with hc | hc
        · exact h2 c hc
        · rw [List.mem_singleton.1 hc]; omega)
      exact ⟨l1, l2, by rw [← e]; simp, h⟩

theorem minByFrom_split (a : α) (l : List α) :
    ∃ l1 l2, a :: l = l1 ++ minByFrom f a l :: l2 ∧
      (∀ c ∈ l1, f (minByFrom f a l) < f c) ∧ (∀ c ∈ l2, f (minByFrom f a l) ≤ f c) :=
  minByFrom_split_aux f l [] [] a (fun _ hc => nomatch hc) (fun _ hc => nomatch hc)

theorem minByFrom_self (p : α) (b : List α) (h : ∀ c ∈ b, f p ≤ f c) : minByFrom f p b = p := by
  induction b with
  | nil => rfl
  | cons c cs ih =>
    have := h c (by simp)
    simp only [minByFrom]
    rw [if_neg (by omega)]
    exact ih (fun c hc => h c (List.mem_cons_of_mem _ hc))

theorem minByFrom_append (x p : α) (a b : List α) (hx : f p < f x) (h1 : ∀ c ∈ a, f p < f c)
    (h2 : ∀ c ∈ b, f p ≤ f c) : minByFrom f x (a ++ p :: b) = p := by
  induction a generalizing x with
  | nil =>
    simp only [List.nil_append, minByFrom, if_pos hx]
    exact minByFrom_self f p b h2
  | cons c cs ih =>
    simp only [List.cons_append, minByFrom]
    split
    · exact ih c (h1 c (by simp)) (fun c hc => h1 c (List.mem_cons_of_mem _ hc))
    · exact ih x hx (fun c hc => h1 c (List.mem_cons_of_mem _ hc))

theorem minBy?_eq_some_iff {g : List α} {p : α} :
    minBy? f g = some p ↔
      ∃ l1 l2, g = l1 ++ p :: l2 ∧ (∀ c ∈ l1, f p < f c) ∧ (∀ c ∈ l2, f p ≤ f c) := by
  constructor
  · intro h
    cases g with
    | nil => cases h
    | cons a l =>
      cases h
      exact minByFrom_split f a l
  · rintro ⟨l1, l2, rfl, h1, h2⟩
    cases l1 with
    | nil => exact congrArg some (minByFrom_self f p l2 h2)
    | cons x xs =>
      exact congrArg some (minByFrom_append f x p xs l2 (h1 x List.mem_cons_self)
        (fun c hc => h1 c (List.mem_cons_of_mem _ hc)) h2)

theorem minByFrom_mem (a : α) (l : List α) : minByFrom f a l ∈ a :: l := by
  obtain ⟨l1, l2, e, _, _⟩ := minByFrom_split f a l
  rw [e]
  exact List.mem_append_right _ List.mem_cons_self

end MinBy

theorem minBy?_eq_none {α} (f : α → Int) (l : List α) : minBy? f l = none ↔ l = [] := by
  cases l <;> simp [minBy?]

theorem minBy?_some {α} {f : α → Int} {l : List α} {m : α} (h : minBy? f l = some m) :
    m ∈ l ∧ ∀ x ∈ l, f m ≤ f x := by
  obtain ⟨l1, l2, rfl, h1, h2⟩ := (minBy?_eq_some_iff f).1 h
  refine ⟨List.mem_append_right _ List.mem_cons_self, fun x hx => ?_⟩
  rcases List.mem_append.1 hx with hx | hx
  · exact Int.le_of_lt (h1 x hx)
  · rcases List.mem_cons.1 hx with rfl | hx
    · exact Int.le_refl _
    · exact h2 x hx

theorem minByFrom_map {α β} (g : β → α) (f : α → Int) (f' : β → Int)
    (h : ∀ x, f (g x) = f' x) (a : β) (l : List β) :
    minByFrom f (g a) (l.map g) = g (minByFrom f' a l) := by
  induction l generalizing a with
  | nil => rfl
  | cons b bs ih =>
    simp only [List.map_cons, minByFrom, h]
    split
    · exact ih b
    · exact ih a

theorem minBy?_map {α β} (g : β → α) (f : α → Int) (f' : β → Int)
    (h : ∀ x, f (g x) = f' x) (l : List β) :
    minBy? f (l.map g) = (minBy? f' l).map g := by
  cases l with
  | nil => rfl
  | cons a as => simp [minBy?, minByFrom_map g f f' h]

theorem filterMap_minBy?_sublist {α} (f : α → Int) (gs : List (List α)) :
    (gs.filterMap (minBy? f)).Sublist gs.flatten := by
  induction gs with
  | nil => exact List.Sublist.slnil
  | cons g gs ih =>
    rw [List.flatten_cons]
    cases h : minBy? f g with
    | none => rw [List.filterMap_cons_none h]; exact ih.trans (List.sublist_append_right _ _)
    | some m =>
      rw [List.filterMap_cons_some h]
      exact (List.singleton_sublist.2 (minBy?_some h).1).append ih

theorem pySliceTo_eq_take {α} (xs : List α) (j : Int) : ∃ t, pySliceTo xs j = xs.take t := by
  unfold pySliceTo; split <;> exact ⟨_, rfl⟩

theorem pySliceFrom_eq_drop {α} (xs : List α) (i : Int) : ∃ d, pySliceFrom xs i = xs.drop d := by
  unfold pySliceFrom; split <;> exact ⟨_, rfl⟩

theorem indexOf_some (x : Int) : ∀ l : List Int, x ∈ l → ∃ i, indexOf? x l = some i
  | [], h => by cases h
  | a :: l, h => by
    unfold indexOf?
    by_cases ha : a = x
    · exact ⟨0, by simp [ha]⟩
    · have hx : x ∈ l := by
        rcases List.mem_cons.mp h with h | h
        · exact absurd h.symm ha
        · exact h
      obtain ⟨i, hi⟩ := indexOf_some x l hx
      exact ⟨i + 1, by simp [ha, hi]⟩

theorem sumInts_append (a b : List Int) : sumInts (a ++ b) = sumInts a + sumInts b := by
  induction a with
  | nil => simp [sumInts]
  | cons x xs ih => simp [sumInts, ih]; omega

end Coma.Proofs
