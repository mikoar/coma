import Props.Defs
import Proofs.SortLemmas
/-
  C03: the HitEnum walk, the run-length aggregation and the decoder.  On a valid matching the walk is a closed form
  (`walkOut`, `walk_eq`: before each pair its skipped query labels as `I`, its skipped reference labels as `D`, then `M`);
  the decoder is described by its cursor (`replayHits_append`: replaying `a` moves the reference by `#M + #D` and the
  query by `#M + #I`), which gives the round trip (`replay_walkOut`) and, since the cursor after the last `M` is the
  last listed pair (`replay_end`), the operation counts (`cigar_counts`).
-/
namespace Coma.Proofs
open Coma.Spec

namespace Cigar

/-- all that C03 needs of `aggregateFrom`, in one induction -/
theorem aggregateFrom_spec (hs : List Hit) : ∀ (prev : Hit) (n : Nat), 0 < n →
    ∃ m tl, aggregateFrom prev n hs = (m, prev) :: tl ∧
      expandRuns ((m, prev) :: tl) = List.replicate n prev ++ hs ∧
      (∀ r ∈ (m, prev) :: tl, 0 < r.1) ∧
      Consec (fun (a b : Nat × Hit) => a.2 ≠ b.2) ((m, prev) :: tl) ∧
      ((m, prev) :: tl).getLast?.map (·.2) = (prev :: hs).getLast? := by
  induction hs with
  | nil =>
    intro prev n hn
    exact ⟨n, [], rfl, by simp [expandRuns], fun r hr => by rw [List.mem_singleton.1 hr]; exact hn, trivial, rfl⟩
  | cons h hs ih =>
    intro prev n hn
    simp only [aggregateFrom]
    split
    · subst_vars
      obtain ⟨m, tl, e, hx, hrest⟩ := ih _ (n + 1) (by omega)
      refine ⟨m, tl, e, ?_, ?_⟩
      · rw [hx]; simp [List.replicate_succ']
      · simpa [List.getLast?_cons_cons] using hrest
    · rename_i hne
      obtain ⟨m, tl, e, hx, hp, hc, hl⟩ := ih h 1 (by omega)
      rw [e]
      refine ⟨n, _, rfl, ?_, ?_, ?_, ?_⟩
      · rw [expandRuns, hx]; simp
      · intro r hr
        rcases List.mem_cons.1 hr with rfl | hr
        · exact hn
        · exact hp r hr
      · exact ⟨fun h' => hne h'.symm, hc⟩
      · rw [List.getLast?_cons_cons, hl, List.getLast?_cons_cons]

theorem valid_pairwise {rev : Bool} {l : List Pr} (hv : ValidMatching rev (sitePairs l)) :
    l.Pairwise (fun a b => a.r.site < b.r.site ∧
      (if rev then b.q.site < a.q.site else a.q.site < b.q.site)) := by
  unfold ValidMatching sitePairs at hv
  exact List.pairwise_map.1 hv

theorem valid_cons {rev : Bool} {p n : Pr} {ns : List Pr} (hv : ValidMatching rev (sitePairs (p :: n :: ns))) :
    (p.r.site < n.r.site ∧ (if rev then n.q.site < p.q.site else p.q.site < n.q.site)) ∧
      ValidMatching rev (sitePairs (n :: ns)) := by
  have hp := List.pairwise_cons.1 (valid_pairwise hv)
  exact ⟨hp.1 n (by simp), List.pairwise_map.2 hp.2⟩

theorem head_le_getLast {rev : Bool} (c : Pr) (ps : List Pr) (hv : ValidMatching rev (sitePairs (c :: ps))) :
    c.r.site ≤ ((c :: ps).getLast (by simp)).r.site :=
  sorted_tail_le (fun p => p.r.site) c ps
    (List.pairwise_map.2 ((valid_pairwise hv).imp fun h => Int.le_of_lt h.1)) _ (List.getLast_mem _)

theorem dedup_id (rev : Bool) (l : List Pr) (hv : ValidMatching rev (sitePairs l)) :
    dedupQueryKeepLast l = l := by
  induction l with
  | nil => rfl
  | cons p t ih =>
    cases t with
    | nil => rfl
    | cons q rest =>
      obtain ⟨⟨_, h⟩, hvt⟩ := valid_cons hv
      have hne : ¬ (p.q.site = q.q.site) := by
        cases rev <;> simp at h <;> omega
      simp only [dedupQueryKeepLast, hne, if_false, ih hvt]

/-- closed form of the walk's output -/
def walkOut : Int → Int → List Pr → List Hit
  | _, _, [] => []
  | refIdx, prevQ, c :: ps =>
    List.replicate ((c.q.site - prevQ).natAbs - 1) Hit.I ++
      (List.replicate (c.r.site - refIdx).toNat Hit.D ++ Hit.M :: walkOut (c.r.site + 1) c.q.site ps)

/-- one `D` step of the closed form, in the shape of one `D` step of `hitWalk` -/
theorem walkOut_D (refIdx prevQ : Int) (c : Pr) (ps : List Pr) (h : refIdx < c.r.site) :
    walkOut refIdx prevQ (c :: ps) = List.replicate ((c.q.site - prevQ).natAbs - 1) Hit.I ++
      Hit.D :: walkOut (refIdx + 1) (if (c.q.site - prevQ).natAbs > 1 then c.q.site else prevQ) (c :: ps) := by
  have e : (c.r.site - refIdx).toNat = (c.r.site - (refIdx + 1)).toNat + 1 := by omega
  have i : (c.q.site - (if (c.q.site - prevQ).natAbs > 1 then c.q.site else prevQ)).natAbs - 1 = 0 := by
    split <;> omega
  simp only [walkOut, e, i, List.replicate_succ, List.replicate_zero, List.nil_append, List.cons_append]

theorem hitWalk_past (fuel : Nat) (refIdx last : Int) (cur : Option Pr) (rest : List Pr) (prevQ : Int)
    (h : refIdx > last) : hitWalk fuel refIdx last cur rest prevQ = .ok [] := by
  cases fuel with
  | zero => rfl
  | succ f => simp [hitWalk, h]

theorem ins_eq (n : Nat) :
    (if n > 1 then List.replicate (n - 1) Hit.I else []) = List.replicate (n - 1) Hit.I := by
  split
  · rfl
  · have : n - 1 = 0 := by omega
    simp [this]

theorem walk_eq (rev : Bool) (last : Int) : ∀ (fuel : Nat) (refIdx prevQ : Int) (c : Pr) (ps : List Pr),
    ValidMatching rev (sitePairs (c :: ps)) → refIdx ≤ c.r.site →
    last = ((c :: ps).getLast (by simp)).r.site → last - refIdx + 1 ≤ (fuel : Int) →
    hitWalk fuel refIdx last (some c) ps prevQ = .ok (walkOut refIdx prevQ (c :: ps)) := by
  intro fuel
  induction fuel with
  | zero => intro refIdx prevQ c ps hv hr hl hf; have := head_le_getLast c ps hv; omega
  | succ f ih =>
    intro refIdx prevQ c ps hv hr hl hf
    have hcl := head_le_getLast c ps hv
    have hnl : ¬ (refIdx > last) := by omega
    rcases Int.lt_or_eq_of_le hr with hlt | heq
    · -- `D`: the pair is still ahead
      have hne : ¬ (c.r.site = refIdx) := by omega
      simp only [hitWalk, hnl, hne, gt_iff_lt, hlt, if_true, if_false, ins_eq]
      rw [ih (refIdx + 1) _ c ps hv (by omega) hl (by omega), walkOut_D _ _ _ _ hlt]
      rfl
    · -- `M`: the pair is here; go on with the next pair, or stop past `last`
      subst heq
      cases ps with
      | nil =>
        have hp : c.r.site + 1 > last := by simp at hl; omega
        simp only [hitWalk, hnl, if_true, if_false, ins_eq]
        rw [hitWalk_past _ _ _ _ _ _ hp]
        simp [walkOut]; rfl
      | cons n ns =>
        obtain ⟨⟨hcn, _⟩, hvt⟩ := valid_cons hv
        simp only [hitWalk, hnl, if_true, if_false, ins_eq]
        rw [ih _ _ n ns hvt (by omega) (by rw [hl, List.getLast_cons_cons]) (by omega)]
        simp [walkOut]; rfl

theorem hitEnums_eq (rev : Bool) (p : Pr) (ps : List Pr)
    (hv : ValidMatching rev (sitePairs (p :: ps))) :
    hitEnums (p :: ps) = .ok (Hit.M :: walkOut (p.r.site + 1) p.q.site ps) := by
  unfold hitEnums
  rw [dedup_id rev _ hv]
  simp only
  rw [walk_eq rev _ _ p.r.site p.q.site p ps hv (Int.le_refl _) rfl (Int.self_le_toNat _)]
  simp [walkOut]

theorem walkOut_getLast : ∀ (ps : List Pr) (r q : Int), (Hit.M :: walkOut r q ps).getLast? = some Hit.M
  | [], _, _ => rfl
  | c :: ps, r, q => by
    rw [walkOut, ← List.append_assoc, ← List.cons_append, List.getLast?_append,
      walkOut_getLast ps (c.r.site + 1) c.q.site]
    rfl

theorem replayHits_length (rev : Bool) (hs : List Hit) : ∀ (r q : Int),
    (replayHits rev r q hs).length = hs.count Hit.M := by
  induction hs with
  | nil => intro r q; rfl
  | cons h hs ih => intro r q; cases h <;> simp [replayHits, ih]

theorem replayHits_noM (rev : Bool) (hs : List Hit) (h : hs.count Hit.M = 0) (r q : Int) :
    replayHits rev r q hs = [] :=
  List.eq_nil_of_length_eq_zero (by rw [replayHits_length, h])

theorem qry_step_succ (rev : Bool) (q : Int) (n n' : Nat) (h : n' = n + 1) :
    (if rev then (if rev then q - 1 else q + 1) - (n : Int) else (if rev then q - 1 else q + 1) + (n : Int)) =
      (if rev then q - (n' : Int) else q + (n' : Int)) := by
  subst h
  cases rev
  · show q + 1 + (n : Int) = q + ((n + 1 : Nat) : Int); omega
  · show q - 1 - (n : Int) = q - ((n + 1 : Nat) : Int); omega

theorem replayHits_append (rev : Bool) (a b : List Hit) : ∀ (r q : Int),
    replayHits rev r q (a ++ b) = replayHits rev r q a ++
      replayHits rev (r + ((a.count Hit.M + a.count Hit.D : Nat) : Int))
        (if rev then q - ((a.count Hit.M + a.count Hit.I : Nat) : Int)
         else q + ((a.count Hit.M + a.count Hit.I : Nat) : Int)) b := by
  induction a with
  | nil =>
    intro r q
    cases rev <;> simp [replayHits]
  | cons h a ih =>
    intro r q
    generalize hm : a.count Hit.M = m at ih
    generalize hd : a.count Hit.D = d at ih
    generalize hi : a.count Hit.I = i at ih
    cases h with
    | M =>
      -- emits the next pair and moves both cursors by one; `#M` grows by one
      have er : r + 1 + ((m + d : Nat) : Int) = r + ((m + 1 + d : Nat) : Int) := by omega
      have eq := qry_step_succ rev q (m + i) (m + 1 + i) (by omega)
      simp only [List.cons_append, replayHits, ih, List.count_cons_self, List.count_cons_of_ne, hm, hd, hi, er, eq,
        ne_eq, reduceCtorEq, not_false_eq_true]
    | D =>
      -- moves the reference cursor only; `#D` grows by one
      have er : r + 1 + ((m + d : Nat) : Int) = r + ((m + (d + 1) : Nat) : Int) := by omega
      simp only [List.cons_append, replayHits, ih, List.count_cons_self, List.count_cons_of_ne, hm, hd, hi, er,
        ne_eq, reduceCtorEq, not_false_eq_true]
    | I =>
      -- moves the query cursor only; `#I` grows by one
      have eq := qry_step_succ rev q (m + i) (m + (i + 1)) (by omega)
      simp only [List.cons_append, replayHits, ih, List.count_cons_self, List.count_cons_of_ne, hm, hd, hi, eq,
        ne_eq, reduceCtorEq, not_false_eq_true]

theorem replay_walkOut (rev : Bool) (ps : List Pr) : ∀ (c : Pr),
    ValidMatching rev (sitePairs (c :: ps)) →
    replayHits rev c.r.site c.q.site (walkOut (c.r.site + 1) c.q.site ps) = sitePairs ps := by
  induction ps with
  | nil => intro c _; rfl
  | cons n ns ih =>
    intro c hv
    obtain ⟨⟨h1, h2⟩, hvt⟩ := valid_cons hv
    -- the `I`s and the `D`s move the cursor from `c` to just before `n`, and the `M` emits `n`
    have key : ∀ r' q', r' = n.r.site → q' = n.q.site →
        (r', q') :: replayHits rev r' q' (walkOut (n.r.site + 1) n.q.site ns) = sitePairs (n :: ns) := by
      intro r' q' er eq; rw [er, eq, ih n hvt]; rfl
    have cnt : ∀ i d : Nat, (List.replicate i Hit.I ++ List.replicate d Hit.D).count Hit.M = 0 ∧
        (List.replicate i Hit.I ++ List.replicate d Hit.D).count Hit.D = d ∧
        (List.replicate i Hit.I ++ List.replicate d Hit.D).count Hit.I = i := fun i d => by
      simp [List.count_replicate]
    rw [walkOut, ← List.append_assoc, replayHits_append, replayHits_noM _ _ (cnt _ _).1, (cnt _ _).1, (cnt _ _).2.1,
      (cnt _ _).2.2, List.nil_append, replayHits]
    apply key
    · omega
    · cases rev <;> simp at h2 ⊢ <;> omega

/-- the leading `M` is an ordinary `M` step taken from one place before the start pair -/
theorem replay_eq_some {rev : Bool} {r0 q0 : Int} {hs : List Hit} {l : List (Int × Int)}
    (h : replay rev r0 q0 hs = some l) :
    l = replayHits rev (r0 - 1) (if rev then q0 + 1 else q0 - 1) hs := by
  cases hs with
  | nil => cases h
  | cons a t =>
    cases a <;> simp only [replay, Option.some.injEq, reduceCtorEq] at h
    subst h
    cases rev <;> simp [replayHits]

theorem replay_end (rev : Bool) (r0 q0 : Int) (hs : List Hit) (l : List (Int × Int))
    (h : replay rev r0 q0 hs = some l) (hM : hs.getLast? = some Hit.M) :
    l.length = hs.count Hit.M ∧
    l.getLast? = some (r0 + ((hs.count Hit.M + hs.count Hit.D : Nat) : Int) - 1,
      if rev then q0 - ((hs.count Hit.M + hs.count Hit.I : Nat) : Int) + 1
      else q0 + ((hs.count Hit.M + hs.count Hit.I : Nat) : Int) - 1) := by
  rw [replay_eq_some h, replayHits_length]
  obtain ⟨t, rfl⟩ := List.getLast?_eq_some_iff.1 hM
  -- the last pair is the final `M` step from the cursor after `t`; `t ++ [M]` has one more `M` than `t`
  have cM : (t ++ [Hit.M]).count Hit.M = t.count Hit.M + 1 := by simp
  have cD : (t ++ [Hit.M]).count Hit.D = t.count Hit.D := by simp
  have cI : (t ++ [Hit.M]).count Hit.I = t.count Hit.I := by simp
  rw [replayHits_append, replayHits, replayHits, List.getLast?_concat, cM, cD, cI]
  generalize t.count Hit.M = m
  generalize t.count Hit.D = d
  generalize t.count Hit.I = i
  refine ⟨rfl, congrArg some (Prod.ext ?_ ?_)⟩
  · show r0 - 1 + ((m + d : Nat) : Int) + 1 = r0 + ((m + 1 + d : Nat) : Int) - 1
    omega
  · cases rev
    · show q0 - 1 + ((m + i : Nat) : Int) + 1 = q0 + ((m + 1 + i : Nat) : Int) - 1
      omega
    · show q0 + 1 - ((m + i : Nat) : Int) - 1 = q0 - ((m + 1 + i : Nat) : Int) + 1
      omega

theorem renderRuns_ne_empty (n : Nat) (h : Hit) (tl : List (Nat × Hit)) :
    renderRuns ((n, h) :: tl) ≠ "" := by
  intro he
  simp only [renderRuns, List.map_cons, String.join_cons, String.append_eq_empty_iff] at he
  have : h.chr ≠ "" := by cases h <;> decide
  exact this he.1.2

end Cigar
open Cigar

theorem aggregate_spec (hs : List Hit) (rs : List (Nat × Hit)) (h : aggregate hs = .ok rs) :
    expandRuns rs = hs ∧ rs ≠ [] ∧ (∀ r ∈ rs, 0 < r.1) ∧ Consec (fun a b => a.2 ≠ b.2) rs ∧
    (rs.head?.map (·.2) = hs.head?) ∧ (rs.getLast?.map (·.2) = hs.getLast?) := by
  cases hs with
  | nil => cases h
  | cons a hs =>
    obtain ⟨m, tl, e, hx, hp, hc, hl⟩ := aggregateFrom_spec hs a 1 (by omega)
    obtain rfl : aggregateFrom a 1 hs = rs := Except.ok.inj h
    rw [e]
    exact ⟨hx, List.cons_ne_nil _ _, hp, hc, rfl, hl⟩

theorem expand_aggregate (hs : List Hit) (rs : List (Nat × Hit)) (h : aggregate hs = .ok rs) :
    expandRuns rs = hs :=
  (aggregate_spec hs rs h).1

theorem cigar_roundtrip (rev : Bool) (p : Pr) (ps : List Pr) (hv : ValidMatching rev (sitePairs (p :: ps))) :
    ∃ hs rs, hitEnums (p :: ps) = .ok hs ∧ aggregate hs = .ok rs ∧
      replay rev p.r.site p.q.site (expandRuns rs) = some (sitePairs (p :: ps)) := by
  refine ⟨_, _, hitEnums_eq rev p ps hv, rfl, ?_⟩
  rw [expand_aggregate (Hit.M :: _) _ rfl, replay, replay_walkOut rev ps p hv]
  rfl

theorem hits_start_end_M (rev : Bool) (p : Pr) (ps : List Pr) (hv : ValidMatching rev (sitePairs (p :: ps)))
    (hs : List Hit) (h : hitEnums (p :: ps) = .ok hs) :
    hs.head? = some Hit.M ∧ hs.getLast? = some Hit.M := by
  obtain rfl : hs = _ := Except.ok.inj (h.symm.trans (hitEnums_eq rev p ps hv))
  exact ⟨rfl, walkOut_getLast ps _ _⟩

theorem cigar_nonempty (rev : Bool) (p : Pr) (ps : List Pr) (hv : ValidMatching rev (sitePairs (p :: ps))) :
    ∃ s, cigarOf aggregate (p :: ps) = .ok s ∧ s ≠ "" := by
  obtain ⟨m, tl, e, _⟩ := aggregateFrom_spec (walkOut (p.r.site + 1) p.q.site ps) Hit.M 1 (by omega)
  refine ⟨renderRuns ((m, Hit.M) :: tl), ?_, renderRuns_ne_empty _ _ _⟩
  simp only [cigarOf, List.isEmpty_cons, Bool.false_eq_true, if_false, hitEnums_eq rev p ps hv,
    aggregate, ← e]
  rfl

theorem cigar_counts (rev : Bool) (p : Pr) (ps : List Pr) (hv : ValidMatching rev (sitePairs (p :: ps)))
    (hs : List Hit) (h : hitEnums (p :: ps) = .ok hs) :
    hs.count Hit.M = (p :: ps).length ∧
    ((hs.count Hit.M + hs.count Hit.D : Nat) : Int) = ((p :: ps).getLast (by simp)).r.site - p.r.site + 1 ∧
    ((hs.count Hit.M + hs.count Hit.I : Nat) : Int) = (((p :: ps).getLast (by simp)).q.site - p.q.site).natAbs + 1 := by
  obtain ⟨hs', rs, h', ha, hr⟩ := cigar_roundtrip rev p ps hv
  cases h.symm.trans h'
  rw [expand_aggregate hs rs ha] at hr
  obtain ⟨hlen, hlast⟩ := replay_end rev _ _ hs _ hr (hits_start_end_M rev p ps hv hs h).2
  simp only [sitePairs, List.length_map, List.getLast?_map, List.getLast?_eq_some_getLast (l := p :: ps) (by simp),
    Option.map_some, Option.some.injEq, Prod.mk.injEq] at hlen hlast
  rw [List.length_cons] at hlen ⊢
  obtain ⟨hr', hq'⟩ := hlast
  refine ⟨hlen.symm, by omega, ?_⟩
  -- the query cursor moved `#M + #I - 1` places in the strand's direction, and `#M ≥ 1`
  cases rev
  · have : ((p :: ps).getLast (by simp)).q.site = p.q.site + ((hs.count Hit.M + hs.count Hit.I : Nat) : Int) - 1 := hq'
    omega
  · have : ((p :: ps).getLast (by simp)).q.site = p.q.site - ((hs.count Hit.M + hs.count Hit.I : Nat) : Int) + 1 := hq'
    omega

def runTotal (x : Hit) (rs : List (Nat × Hit)) : Nat := ((rs.filter (fun r => r.2 = x)).map (·.1)).sum

theorem count_expandRuns (x : Hit) (rs : List (Nat × Hit)) : (expandRuns rs).count x = runTotal x rs := by
  induction rs with
  | nil => simp [expandRuns, runTotal]
  | cons r rest ih =>
    obtain ⟨n, h⟩ := r
    unfold runTotal at ih ⊢
    rw [expandRuns, List.count_append, List.count_replicate, ih]
    by_cases e : h = x
    · subst e; simp
    · have e' : ¬ (h == x) = true := by simpa using e
      simp [e, e']

end Coma.Proofs
