import Props.Defs
/-
  Non-vacuity of the theorems about weakly ascending coordinates (`Ascending`): closed inputs with coincident labels
  that meet their hypotheses and are not strictly ascending, evaluated by the kernel.
-/
namespace Coma.Proofs
open Coma.Spec

namespace TiesRun

def wRef : OMap := { id := 1, length := 600000, positions := [5000, 20000, 35000, 51000, 62000, 70500, 83000, 91000,
  100000, 120000, 160000, 200000, 250000, 251000, 300000, 430000, 450000, 450000, 470000, 485000, 499000, 550000] }
/-- two labels at 1000 (query start of the first-pass record) and two at 41000 (its query end); the
    record covers 20 % of the molecule, so the fragment after it is cut and re-aligned -/
def wQry : OMap := { id := 7, length := 200000, positions := [1000, 1000, 12000, 20500, 33000, 41000, 41000, 60000,
  95000, 130000, 150000, 170000, 185000, 199000] }
def wTbl : SeedTable := [(⟨7, 0, 14⟩, [⟨1, false, [50000]⟩]), (⟨7, 3, 11⟩, [⟨1, false, [300000, 50000]⟩])]

/-- `Ascending` of the two maps (of the hypotheses of `execute_total_weak` only this is checked here), and the
    query is NOT strictly ascending -/
theorem witness_hyps :
    Ascending wRef.positions ∧ Ascending wQry.positions ∧ ¬ StrictAscending wQry.positions := by
  unfold Ascending StrictAscending
  decide

/-- the first-pass record starts and ends on a coincident label and the fragment (which again
    contains the coincident pair at 41000) is cut -/
theorem witness_fragments :
    ((executeSingle { P := defaultParams } [wRef] wTbl [wQry] 1).toOption.map
        (fun rows => rows.map (fun r => (r.qStart, r.qEnd)))) = some [(1000, 41000)] ∧
    ((executeSingle { P := defaultParams } [wRef] wTbl [wQry] 1).toOption.bind
        (fun rows => (rows.mapM (fun r => unalignedFragments r [wQry])).toOption.map
          (fun fss => fss.flatten.map (fun (f : OMap) => (f.shift, f.positions)))))
      = some [(3, [20500, 33000, 41000, 41000, 60000, 95000, 130000, 150000, 170000, 185000, 199000])] := by
  constructor
  · decide +kernel
  · decide +kernel

/-- the fragment is aligned in the second pass and mode 'all' joins both records -/
theorem witness_run :
    ((execute { P := defaultParams, maxDifference := 1000000 } .all [wRef] wTbl [wQry] 1).toOption.map
        (fun o => o.main.map (fun r => (r.qStart, r.qEnd, r.pairs.map (fun p => (p.r.site, p.q.site))))))
      = some [(1000, 199000, [(4, 1), (5, 3), (6, 4), (7, 5), (8, 6), (16, 10), (17, 11), (19, 12), (20, 13), (21, 14)])] := by
  decide +kernel

end TiesRun

namespace TiesMore

def wRef : OMap := { id := 1, length := 30000, positions := [1000, 5000, 5000, 9000, 14000, 14000, 20000, 26000] }
/-- the window 4000 … 24000 of `wRef`, mirrored: labels 2/3 and 5/6 coincide on both maps -/
def wQry : OMap := { id := 8, length := 20000, positions := [3999, 9999, 9999, 14999, 18999, 18999] }

/-- what the `_weak` theorems ask of the two maps, and neither is strictly ascending -/
theorem witness_hyps : Ascending wRef.positions ∧ Ascending wQry.positions ∧
    ¬ StrictAscending wRef.positions ∧ ¬ StrictAscending wQry.positions := by
  unfold Ascending StrictAscending
  decide

/-- one non-empty segment; of each coincident pair exactly one label is paired, and the label
    numbers ascend on the reference and descend on the query -/
theorem witness_row :
    ((alignerAlign defaultParams {} wRef wQry [4000] true 1).toOption.map
      (fun row => (sitePairs row.pairs, (row.segments.filter (fun s => !s.items.isEmpty)).length)))
      = some ([(2, 5), (4, 4), (5, 2), (7, 1)], 1) := by
  decide +kernel

end TiesMore

end Coma.Proofs
