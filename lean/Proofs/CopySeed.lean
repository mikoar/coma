import Proofs.Peaks
import Proofs.CopySeed_Setup

/- C06 for the secondary seeding stage, at label level, default resolution and blur: a molecule that is an exact copy of
   n ≥ 13 consecutive reference labels (spacing ≥ 2 kb) gets, from `refine`'s correlation and `find_peaks`, a seed within
   200 bp of the true placement `ref.positions[i]`, provided the refinement window starts at least 500 bp before the first
   copied label and contains the reference label that follows the copy.  On the reverse strand the molecule is the mirror
   image of the copy and its vector is reversed before the correlation; off the lattice that is not the vector of the copy
   (every label's bin may move by one), so the two strands are two instances of `RunPairs.seed`, not mirror images. -/
namespace Coma.Proofs

/-- `start`: the refinement window starts 500 bp, five bins of 100 bp (`Geo.rb_first`), before the first copied label.
    `gaps`: 2000 bp are 20 bins (`bins_far`), so the runs of 9 bins are disjoint and no other reference run comes within
    the 8 bins of a copied label that `RunPairs.near` speaks of (that needs more than 8 + 4). -/
structure CopyInWindow (c : SecCfg) (ref q : OMap) (peak : Int) (i n : Nat) : Prop where
  res    : c.res = 100
  blur   : c.blur = 4
  thr    : c.thr ≤ 27
  many   : 13 ≤ n
  gaps   : ref.positions.Pairwise (fun a b => a + 2000 ≤ b)
  nonneg : ∀ p ∈ ref.positions, 0 ≤ p
  inside : i + n < ref.positions.length
  copy   : q.positions = ((ref.positions.drop i).take n).map (fun p => p - ref.positions.getD i 0)
  start  : peak - c.margin + 500 ≤ ref.positions.getD i 0
  next   : ref.positions.getD (i + n) 0 ≤ peak + q.length + c.margin
  stopnz : peak + q.length + c.margin ≠ 0

namespace CopyInWindow

theorem geo {c : SecCfg} {ref q : OMap} {peak : Int} {i n : Nat} (H : CopyInWindow c ref q peak i n) :
    ∃ qv rv, sequenceOf c.res c.blur q.positions 0 none = .ok qv ∧
      sequenceOf c.res c.blur ref.positions (peak - c.margin) (some (peak + q.length + c.margin)) = .ok rv ∧
      CopySeed.Geo (fun m => ref.positions.getD m 0) ref.positions.length i n (peak - c.margin) qv rv := by
  obtain ⟨hres, hblur, _, hmany, hgaps, _, hinside, hcopy, hstart, hnext, hstopnz⟩ := H
  rw [hres, hblur]
  have hRne : ref.positions ≠ [] := by
    intro h; rw [h] at hinside; simp at hinside
  have hQlen := CopySeed.copy_length hcopy (Nat.le_of_lt hinside)
  have hQne : q.positions ≠ [] := by
    intro h; rw [h] at hQlen; simp at hQlen; omega
  obtain ⟨qv, hqv⟩ := Peaks.sequenceOf_exists 100 4 q.positions 0 none (by omega) (by omega) hQne
  obtain ⟨rv, hrv⟩ := Peaks.sequenceOf_exists 100 4 ref.positions (peak - c.margin)
    (some (peak + q.length + c.margin)) (by omega) (by omega) hRne
  exact ⟨qv, rv, hqv, hrv, CopySeed.geo_of ref.positions q.positions i n _ _ qv rv (by omega) hgaps hinside hcopy
    (by omega) hnext hstopnz hqv hrv⟩

end CopyInWindow

theorem secondary_seed_near_copy (c : SecCfg) (ref q : OMap) (peak : Int) (i n : Nat)
    (H : CopyInWindow c ref q peak i n) :
    ∃ corr, refineCorrelation c ref q false peak = .ok corr ∧
      ∃ p h, (p, h) ∈ findPeaksSecondary c.thr (corr.map Int.ofNat) ∧
        toBp (p : Int) 100 (peak - c.margin) - ref.positions.getD i 0 ≤ 200 ∧
        ref.positions.getD i 0 - toBp (p : Int) 100 (peak - c.margin) ≤ 200 := by
  obtain ⟨qv, rv, hqv, hrv, G⟩ := H.geo
  have hqne : qv ≠ [] := List.ne_nil_of_length_eq_add_one G.qlen
  have hk := G.klen
  -- every copied label lies `rb i` or `rb i + 1` bins after its query label
  obtain ⟨p, h, hmem, hp1, hp2⟩ := G.pairs.seed (Peaks.sequenceOf_bits _ _ _ _ _ rv hrv) (by have := H.many; omega) c.thr
    H.thr (CopySeed.rb _ (peak - c.margin) i) 0 (Nat.zero_le 1) G.rb_first (by omega) (fun j hj => by have := G.rb_qb hj; omega)
  exact ⟨corrValid rv qv,
    (Peaks.refineCorrelation_of_seq hqv hrv).trans (Peaks.correlate_valid rv qv hqne (by omega)),
    p, h, hmem, CopySeed.toBp_near p _ _ (by have := H.start; omega) (Nat.le_succ_of_le hp1) hp2⟩

/-- `q0` is the exact copy, trimmed (`hlen`); the molecule given to COMA is its mirror image `q0.mirror`, refined with
    `rev = true`. -/
theorem secondary_seed_near_copy_rev (c : SecCfg) (ref q0 : OMap) (peak : Int) (i n : Nat)
    (H : CopyInWindow c ref q0 peak i n) (hlen : q0.length = lastD 0 q0.positions + 1) :
    ∃ corr, refineCorrelation c ref q0.mirror true peak = .ok corr ∧
      ∃ p h, (p, h) ∈ findPeaksSecondary c.thr (corr.map Int.ofNat) ∧
        toBp (p : Int) 100 (peak - c.margin) - ref.positions.getD i 0 ≤ 200 ∧
        ref.positions.getD i 0 - toBp (p : Int) 100 (peak - c.margin) ≤ 200 := by
  obtain ⟨qf, rv, hqf, hrv, G⟩ := H.geo
  obtain ⟨hres, hblur, hthr, hmany, hgaps, _, hinside, hcopy, hstart, _, _⟩ := H
  have hMpos : q0.mirror.positions = (q0.positions.map (fun p => q0.length - 1 - p)).reverse := rfl
  have hMne : q0.mirror.positions ≠ [] := by
    have hQlen := CopySeed.copy_length hcopy (Nat.le_of_lt hinside)
    intro h
    rw [hMpos, List.reverse_eq_nil_iff, List.map_eq_nil_iff] at h
    rw [h] at hQlen
    simp at hQlen
    omega
  obtain ⟨mv, hmv⟩ := Peaks.sequenceOf_exists c.res c.blur q0.mirror.positions 0 none (by omega) (by omega) hMne
  obtain ⟨hrlen, R⟩ := CopySeed.revq_of ref.positions q0.positions i n q0.length mv (by omega) hgaps hinside hcopy hlen
    (by rw [← hMpos, ← hres, ← hblur]; exact hmv)
  have hqne : mv.reverse ≠ [] := List.ne_nil_of_length_eq_add_one hrlen
  have hk := G.klen
  have hq := G.qlen
  -- every copied label lies `rb i - 1`, `rb i` or `rb i + 1` bins after the run of its query label
  obtain ⟨p, h, hmem, hp1, hp2⟩ := (G.pairs_rev hrlen R).seed (Peaks.sequenceOf_bits _ _ _ _ _ rv hrv) (by omega) c.thr
    hthr (CopySeed.rb _ (peak - c.margin) i) 1 (Nat.le_refl 1) G.rb_first (by omega)
    (fun j hj => by have := G.rb_qb hj; have := G.xb_qb hj; omega)
  exact ⟨corrValid rv mv.reverse,
    (Peaks.refineCorrelation_of_seq hmv hrv).trans (Peaks.correlate_valid rv mv.reverse hqne (by omega)),
    p, h, hmem, CopySeed.toBp_near p _ _ (by omega) hp1 hp2⟩

end Coma.Proofs
