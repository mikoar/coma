import Proofs.Equivariant

/-
  The whole construction of a candidate row (`alignerAlign`) under a map on positions.  In the pairing engine the
  windows, the candidates and the unpaired labels move with the labels; the de-duplication does when the map keeps the
  order of the label numbers (`dedup_map`) or when there are no ties (`Mirror.dedup_relabel`): that it does is a
  hypothesis of `PMap.engineOn_map`.  Everything behind the engine commutes with every `PMap.Equi` map
  (`PMap.alignerAlign_map`), because the segments the resolver is given are cut by the factory.
-/
namespace Coma.Proofs

theorem window_map (f : Lbl → Lbl) (lo hi lo' hi' : Int) (h1 : ∀ a, (f a).pos < lo' ↔ a.pos < lo)
    (h2 : ∀ a, (f a).pos ≤ hi' ↔ a.pos ≤ hi) (ls : List Lbl) :
    window lo' hi' (ls.map f) = (window lo hi ls).map f := by
  unfold window
  rw [List.dropWhile_map, List.takeWhile_map]
  have e1 : ((fun x : Lbl => decide (x.pos < lo')) ∘ f) = (fun x => decide (x.pos < lo)) :=
    funext fun a => decide_eq_decide.2 (h1 a)
  have e2 : ((fun x : Lbl => decide (x.pos ≤ hi')) ∘ f) = (fun x => decide (x.pos ≤ hi)) :=
    funext fun a => decide_eq_decide.2 (h2 a)
  rw [e1, e2]

namespace PMap
variable (m : PMap)

theorem candidates_map (start start' : Int)
    (hoff : ∀ r q, (m.q q).pos - ((m.r r).pos - start') = q.pos - (r.pos - start)) (md it : Int)
    (refs qs : List Lbl) :
    candidates md start' (m.src it) (refs.map m.r) (qs.map m.q) = (candidates md start it refs qs).map m.pr := by
  unfold candidates
  rw [List.flatMap_map, List.map_flatMap]
  refine congrArg (fun F => List.flatMap F refs) (funext fun r => ?_)
  rw [window_map m.q (r.pos - start - md) (r.pos - start + md) _ _ (fun a => by have := hoff r a; omega)
    (fun a => by have := hoff r a; omega), List.map_map, List.map_map]
  refine List.map_congr_left fun q _ => ?_
  simp only [Function.comp, pr, hoff]

theorem unpaired_map (hr : ∀ a b, (m.r a).site = (m.r b).site ↔ a.site = b.site)
    (hq : ∀ a b, (m.q a).site = (m.q b).site ↔ a.site = b.site) (refs qs : List Lbl) (pairs : List Pr)
    (start : Int) :
    unpaired (refs.map m.r) (qs.map m.q) (pairs.map m.pr) (m.st start) =
      (unpaired refs qs pairs start).map m.ap := by
  have er : ∀ x : Lbl, (pairs.map (fun p => (m.pr p).r.site)).contains (m.r x).site =
      (pairs.map (fun p => p.r.site)).contains x.site := by
    intro x
    rw [Bool.eq_iff_iff, List.contains_iff_mem, List.contains_iff_mem, List.mem_map, List.mem_map]
    exact exists_congr fun p => and_congr_right fun _ => hr p.r x
  have eq : ∀ x : Lbl, (pairs.map (fun p => (m.pr p).q.site)).contains (m.q x).site =
      (pairs.map (fun p => p.q.site)).contains x.site := by
    intro x
    rw [Bool.eq_iff_iff, List.contains_iff_mem, List.contains_iff_mem, List.mem_map, List.mem_map]
    exact exists_congr fun p => and_congr_right fun _ => hq p.q x
  simp only [unpaired, List.filter_map, List.map_append, List.map_map, Function.comp_def, er, eq]
  rfl

theorem engineOn_map (start start' : Int) (hst : m.st start = start')
    (hoff : ∀ r q, (m.q q).pos - ((m.r r).pos - start') = q.pos - (r.pos - start))
    (hr : ∀ a b, (m.r a).site = (m.r b).site ↔ a.site = b.site)
    (hq : ∀ a b, (m.q a).site = (m.q b).site ↔ a.site = b.site)
    (habs : ∀ a b, (m.ap a).abs ≤ (m.ap b).abs ↔ a.abs ≤ b.abs) (md it : Int) (refs qs : List Lbl)
    (hd : dedup ((candidates md start it refs qs).map m.pr) = (dedup (candidates md start it refs qs)).map m.pr) :
    engineOn md start' (m.src it) (refs.map m.r) (qs.map m.q) = (engineOn md start it refs qs).map m.ap := by
  unfold engineOn
  rw [m.candidates_map start start' hoff, hd, ← hst, m.unpaired_map hr hq,
    ← isort_map_of_le_iff m.ap APos.abs APos.abs habs, List.map_append, List.map_map, List.map_map]
  rfl

variable {m}

theorem segmentsOfPeak_map (P : Params) (ref ref' qry qry' : OMap) (rev rev' : Bool) (it it' peak : Int)
    (he : engineAlign P.md ref' qry' (m.pk peak) (m.pk peak + qry'.length) rev' it' =
      (engineAlign P.md ref qry peak (peak + qry.length) rev it).map m.ap) :
    segmentsOfPeak P ref' qry' rev' it' (m.pk peak) =
      (segmentsOfPeak P ref qry rev it peak).map (List.map m.seg) := by
  unfold segmentsOfPeak
  dsimp only
  rw [he, m.scoreAll?_map, m.getSegments_map]
  cases scoreAll? P (engineAlign P.md ref qry peak (peak + qry.length) rev it) <;> rfl

/-- `j` is what the map does to the engine's counter -/
theorem segmentsOfPeaks_map (P : Params) (ref ref' qry qry' : OMap) (rev rev' : Bool) (j : Int → Int)
    (hj : ∀ it, j (it + 1) = j it + 1) : ∀ (peaks : List Int) (it : Int),
    (∀ p ∈ peaks, ∀ it, engineAlign P.md ref' qry' (m.pk p) (m.pk p + qry'.length) rev' (j it) =
      (engineAlign P.md ref qry p (p + qry.length) rev it).map m.ap) →
    segmentsOfPeaks P ref' qry' rev' (j it) (peaks.map m.pk) =
      (segmentsOfPeaks P ref qry rev it peaks).map (List.map m.seg)
  | [], _, _ => rfl
  | p :: ps, it, he => by
    simp only [List.map_cons, segmentsOfPeaks, bind, Except.bind, pure, Except.pure]
    rw [segmentsOfPeak_map P ref ref' qry qry' rev rev' it (j it) p (he p List.mem_cons_self it), ← hj,
      segmentsOfPeaks_map P ref ref' qry qry' rev rev' j hj ps (it + 1) fun q hq => he q (List.mem_cons_of_mem _ hq)]
    cases segmentsOfPeak P ref qry rev it p with
    | error e => rfl
    | ok a =>
      cases segmentsOfPeaks P ref qry rev (it + 1) ps with
      | error e => rfl
      | ok b => exact congrArg Except.ok List.map_append.symm

theorem create_map (h : m.Equi) (P : Params) (segs : List Seg) (qid rid qlen rlen : Int) (rev : Bool) :
    Row.create P (segs.map m.seg) qid rid qlen rlen rev =
      { Row.create P segs qid rid qlen rlen rev with
        segments := segs.map m.seg
        rStart := (((isort (fun p : Pr => p.r.pos) (segs.flatMap Seg.pairs)).head?.map m.pr).getD nullPr).r.pos
        rEnd := (((isort (fun p : Pr => p.r.pos) (segs.flatMap Seg.pairs)).getLast?.map m.pr).getD nullPr).r.pos } := by
  have hq : ∀ o : Option Pr, ((o.map m.pr).getD nullPr).q.pos = (o.getD nullPr).q.pos := fun o => by
    cases o with
    | none => rfl
    | some p => exact h.q_pos p.q
  unfold Row.create
  simp only [m.flatMap_pairs, m.sumInts_scores,
    isort_map_of_le_iff m.pr (fun p : Pr => p.r.pos) (fun p : Pr => p.r.pos) (fun x y => h.r_le x.r y.r),
    List.head?_map, List.getLast?_map]
  cases rev <;> simp only [hq, Bool.not_false, Bool.not_true, if_true, if_false, Bool.false_eq_true]

theorem create_map_of_r_pos (h : m.Equi) (hr : ∀ a, (m.r a).pos = a.pos) (P : Params) (segs : List Seg)
    (qid rid qlen rlen : Int) (rev : Bool) :
    Row.create P (segs.map m.seg) qid rid qlen rlen rev =
      { Row.create P segs qid rid qlen rlen rev with segments := segs.map m.seg } := by
  have hp : ∀ o : Option Pr, ((o.map m.pr).getD nullPr).r.pos = (o.getD nullPr).r.pos := fun o => by
    cases o with
    | none => rfl
    | some p => exact hr p.r
  rw [create_map h, hp, hp]
  rfl

/-- `g'` and `g`: what is observed of the row built from the mapped inputs and of the row built from the inputs; `hg`
    comes from `PMap.create_map` -/
theorem alignerAlign_map {β : Type} (h : m.Equi) (P : Params) (C : ChainCfg) (ref ref' qry qry' : OMap) (rev rev' : Bool)
    (j : Int → Int) (hj : ∀ it, j (it + 1) = j it + 1) (peaks peaks' : List Int) (hp : peaks.map m.pk = peaks')
    (it : Int)
    (he : ∀ p ∈ peaks, ∀ it, engineAlign P.md ref' qry' (m.pk p) (m.pk p + qry'.length) rev' (j it) =
      (engineAlign P.md ref qry p (p + qry.length) rev it).map m.ap)
    (g g' : Row → β)
    (hg : ∀ res, g' (Row.create P (res.map m.seg) qry'.id ref'.id qry'.length ref'.length rev') =
      g (Row.create P res qry.id ref.id qry.length ref.length rev)) :
    (alignerAlign P C ref' qry' peaks' rev' (j it)).map g' = (alignerAlign P C ref qry peaks rev it).map g := by
  unfold alignerAlign
  rw [← hp, segmentsOfPeaks_map P ref ref' qry qry' rev rev' j hj peaks it he]
  cases hs : segmentsOfPeaks P ref qry rev it peaks with
  | error e => rfl
  | ok segs =>
    dsimp only [Except.map, bind, Except.bind]
    rw [resolveConflicts_factory h P C segs (segmentsOfPeaks_factory P ref qry rev it peaks segs hs)]
    cases resolveConflicts P C segs with
    | error e => rfl
    | ok res => exact congrArg Except.ok (hg res)

end PMap

end Coma.Proofs
