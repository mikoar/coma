import Proofs.Peaks
import Proofs.Mirror_Labels

/- C11 for the correlation inputs: on a coordinate lattice commensurate with the resolution the bit vector of the mirror
   image of a trimmed molecule is the reversed bit vector of the molecule (from the exact length and contents of both:
   `trimmed_vec`), blurring commutes with reversal, and therefore `refine` correlates the same query vector for a molecule
   on one strand and its mirror image on the other (`querySequence_mirror`). -/
namespace Coma.Proofs

namespace SeqMirror
open Coma.Proofs.Vector

theorem eq_reverse_of_spec {a b : List Nat} {P Q : Nat → Prop} (n : Nat) (hla : a.length = n) (hlb : b.length = n)
    (ha : ∀ i, i < n → (a.getD i 0 = 1 ∨ a.getD i 0 = 0) ∧ (a.getD i 0 = 1 ↔ P i))
    (hb : ∀ i, i < n → (b.getD i 0 = 1 ∨ b.getD i 0 = 0) ∧ (b.getD i 0 = 1 ↔ Q i))
    (h : ∀ i, i < n → (P i ↔ Q (n - 1 - i))) : a = b.reverse := by
  subst hla
  refine List.ext_getElem (by rw [List.length_reverse, hlb]) fun i h1 h2 => ?_
  have h3 : b.length - 1 - i < b.length := by omega
  obtain ⟨a1, a2⟩ := ha i h1
  obtain ⟨b1, b2⟩ := hb (a.length - 1 - i) (by omega)
  have e := a2.trans ((h i h1).trans b2.symm)
  rw [List.getElem_reverse]
  rw [← hlb] at b1 e
  simp only [List.getD_eq_getElem?_getD, List.getElem?_eq_getElem h1, List.getElem?_eq_getElem h3,
    Option.getD_some] at a1 b1 e
  omega

theorem lattice_bin (res : Int) (hres : 1 ≤ res) (i : Nat) (p : Int) (hd : res ∣ p) :
    ((0 : Int) + i * res ≤ p ∧ p < 0 + ((i : Int) + 1) * res) ↔ p = i * res := by
  obtain ⟨c, rfl⟩ := hd
  rw [Int.zero_add, Int.zero_add, Int.mul_comm res c]
  constructor
  · rintro ⟨h1, h2⟩
    have a1 : (i : Int) ≤ c := Int.le_of_mul_le_mul_right h1 (by omega)
    have a2 : c < (i : Int) + 1 := Int.lt_of_mul_lt_mul_right h2 (by omega)
    have : c = i := by omega
    rw [this]
  · intro h
    rw [h, succ_mul']
    omega

theorem trimmed_last {m : OMap} (ht : Trimmed m) :
    ∃ L, m.positions.getLast? = some L ∧ m.length = L + 1 ∧ (0 : Int) ∈ m.positions := by
  obtain ⟨_, h2, h3, _⟩ := ht
  have h0 : (0 : Int) ∈ m.positions := List.mem_of_head? h2
  cases hlast : m.positions.getLast? with
  | none => exact absurd (List.getLast?_eq_none_iff.mp hlast) (List.ne_nil_of_mem h0)
  | some L => exact ⟨L, rfl, by rw [h3, lastD_eq, hlast]; rfl, h0⟩

theorem trimmed_vec (m : OMap) (res : Int) (ht : Trimmed m) (hres : 1 ≤ res)
    (hl : ∀ p ∈ m.positions, res ∣ p) :
    ∃ v, vectorise m.positions res 0 none = .ok v ∧
      v.length = ((m.length - 1) / res).toNat + 1 ∧
      ∀ i, i < v.length → (v.getD i 0 = 1 ∨ v.getD i 0 = 0) ∧
        (v.getD i 0 = 1 ↔ (i : Int) * res ∈ m.positions) := by
  obtain ⟨L, hlast, hlen, h0⟩ := trimmed_last ht
  have h4 := ht.2.2.2
  obtain ⟨v, hv⟩ := (vectorise_ok m.positions res 0 none).mpr ⟨hres, Or.inl (List.ne_nil_of_mem h0)⟩
  refine ⟨v, hv, ?_, fun i hi => ?_⟩
  · obtain ⟨-, -, rfl⟩ := (vectorise_ok_iff _ _ _ _ _).mp hv
    have hmax := mem_le_last _ L h4 hlast
    have hstop : stopEff' m.positions none = L := by simp [stopEff', hlast]
    rw [hstop, vecGo_length res L hres m.positions 0 L h4 hmax hlast, if_neg (by have := hmax 0 h0; omega), hlen]
    simp
  · obtain ⟨hb, hiff⟩ := vectorise_bits m.positions res 0 none v h4 hv i hi
    refine ⟨hb, hiff.trans ⟨?_, fun h => ⟨_, h, (lattice_bin res hres i _ (hl _ h)).mpr rfl⟩⟩⟩
    rintro ⟨p, hp, hp2⟩
    rwa [(lattice_bin res hres i p (hl p hp)).mp hp2] at hp

end SeqMirror

theorem blur_reverse (v : List Nat) (radius : Int) :
    blur v.reverse radius = (blur v radius).map List.reverse := by
  by_cases hr : radius < 0
  · simp [blur, hr, Except.map]
  · obtain ⟨w, hw⟩ := blur_exists v radius (by omega)
    obtain ⟨w', hw'⟩ := blur_exists v.reverse radius (by omega)
    rw [hw, hw']
    obtain ⟨hlen, hb⟩ := blur_spec v w radius hw
    obtain ⟨hlen', hb'⟩ := blur_spec v.reverse w' radius hw'
    rw [List.length_reverse] at hlen' hb'
    refine congrArg Except.ok (SeqMirror.eq_reverse_of_spec v.length hlen' hlen hb' hb fun i hi => ?_)
    -- a set bit `j` of one vector within the radius of `i` is the set bit `|v| - 1 - j` of the other
    constructor
    · rintro ⟨j, hj, hv, h1, h2⟩
      rw [getD_reverse v j hj] at hv
      exact ⟨v.length - 1 - j, by omega, hv, by omega, by omega⟩
    · rintro ⟨j, hj, hv, h1, h2⟩
      refine ⟨v.length - 1 - j, by omega, ?_, by omega, by omega⟩
      rw [getD_reverse v _ (by omega)]
      have : v.length - 1 - (v.length - 1 - j) = j := by omega
      rwa [this]

theorem vectorise_mirror (m : OMap) (res : Int) (ht : Trimmed m) (hres : 1 ≤ res)
    (hl : ∀ p ∈ m.positions, res ∣ p) :
    vectorise m.mirror.positions res 0 none = (vectorise m.positions res 0 none).map List.reverse := by
  obtain ⟨v, hv, hlen, hbits⟩ := SeqMirror.trimmed_vec m res ht hres hl
  obtain ⟨L, hlast, h3, h0⟩ := SeqMirror.trimmed_last ht
  have hLmem : L ∈ m.positions := List.mem_of_getLast? hlast
  have hL0 : 0 ≤ L := Vector.mem_le_last _ L ht.2.2.2 hlast 0 h0
  have hLd : res ∣ L := hl L hLmem
  have hmem' : ∀ x, x ∈ m.mirror.positions ↔ L - x ∈ m.positions := by
    intro x
    simp only [OMap.mirror, List.mem_reverse, List.mem_map]
    constructor
    · rintro ⟨p, hp, rfl⟩
      have : L - (m.length - 1 - p) = p := by omega
      rwa [this]
    · intro h
      exact ⟨L - x, h, by omega⟩
  have hl' : ∀ p ∈ m.mirror.positions, res ∣ p := by
    intro p hp
    have h := hl _ ((hmem' p).mp hp)
    have := Int.dvd_sub hLd h
    have e : L - (L - p) = p := by omega
    rwa [e] at this
  obtain ⟨v', hv', hlen', hbits'⟩ := SeqMirror.trimmed_vec m.mirror res (mirror_trimmed ht) hres hl'
  rw [hv, hv']
  have hLN : (((m.length - 1) / res).toNat : Int) * res = L := by
    have e : m.length - 1 = L := by omega
    rw [e, Int.toNat_of_nonneg (Int.ediv_nonneg hL0 (by omega))]
    exact Int.ediv_mul_cancel hLd
  rw [hlen] at hbits
  rw [hlen', show m.mirror.length = m.length from rfl] at hbits'
  refine congrArg Except.ok (SeqMirror.eq_reverse_of_spec (((m.length - 1) / res).toNat + 1) hlen' hlen hbits' hbits
    fun i hi => ?_)
  have e : ((((m.length - 1) / res).toNat + 1 - 1 - i : Nat) : Int) = (((m.length - 1) / res).toNat : Int) - i := by
    omega
  rw [hmem', e, Int.sub_mul, hLN]

theorem sequenceOf_mirror (m : OMap) (res blurR : Int) (ht : Trimmed m) (hres : 1 ≤ res)
    (hl : ∀ p ∈ m.positions, res ∣ p) :
    sequenceOf res blurR m.mirror.positions 0 none = (sequenceOf res blurR m.positions 0 none).map List.reverse := by
  unfold sequenceOf
  rw [vectorise_mirror m res ht hres hl]
  cases vectorise m.positions res 0 none with
  | error e => rfl
  | ok v => exact blur_reverse v blurR

theorem querySequence_mirror (c : SecCfg) (q : OMap) (rev : Bool) (ht : Trimmed q) (hres : 1 ≤ c.res)
    (hl : ∀ p ∈ q.positions, c.res ∣ p) :
    querySequence c q.mirror (!rev) = querySequence c q rev := by
  rw [Peaks.querySequence_eq_map, Peaks.querySequence_eq_map, sequenceOf_mirror q c.res c.blur ht hres hl, Exc.map_map]
  exact Exc.map_congr _ _ _ fun s _ => by cases rev <;> simp

end Coma.Proofs
