import Proofs.SegFactory
import Proofs.PairingOrder
import Proofs.ExceptLemmas
import Proofs.Chain
import Proofs.ConflictAll
import Proofs.Fields

/-
  The whole candidate (`alignerAlign`, C01, C04, C07).  The position list of a seed peak has no label twice and its pairs
  strictly ascend, so the segments the factory cuts from it are `FactoryLike`; then chaining succeeds and the resolver
  pass is total and yields contiguous sub-runs.  `Compose.alignerAlign_spec` puts this together: a candidate is
  `Row.create` of segments each of which is a contiguous run of the position list of one of its peaks.  What C01, C04
  and C07 say about a candidate row is read off that.
-/
namespace Coma.Proofs
open Coma.Spec Coma.Proofs.Compose

namespace Compose

theorem asc_of_strict {l : List Int} (h : StrictAscending l) : Ascending l :=
  List.Pairwise.imp (fun hab => Int.le_of_lt hab) h

theorem factoryLike_nil (peak : Int) : FactoryLike ⟨peak, []⟩ :=
  ⟨⟨List.Pairwise.nil, Or.inl rfl, List.Pairwise.nil⟩, ⟨List.Pairwise.nil, Or.inl rfl, List.Pairwise.nil⟩⟩

theorem segments_ok (P : Params) (hP : GoodParams P) (peak : Int) (xs : List APos)
    (hn : PyNodup xs) (ha : PairsAscending xs) :
    ∀ s ∈ getSegments P peak xs, FactoryLike s ∧ s.peak = peak ∧ s.items <:+: xs := by
  intro s hs
  rcases mem_getSegments_run (scoreAll?_ne_none P hP.su_nonpos xs) hs with
    rfl | ⟨r, p1, p2, _, _, rfl, h1, h2⟩
  · exact ⟨factoryLike_nil peak, rfl, List.nil_infix⟩
  · have hinf := run_infix xs r.start (r.stop - r.start)
    have hn' : PyNodup _ := List.Pairwise.sublist hinf.sublist hn
    have ha' : PairsAscending _ := List.Pairwise.sublist (hinf.sublist.filterMap _) ha
    exact ⟨⟨⟨hn', Or.inr ⟨p2, h2⟩, ha'⟩, ⟨hn', Or.inr ⟨p1, h1⟩, ha'⟩⟩, rfl, hinf⟩

end Compose

theorem segmentsOfPeak_ok_iff {P : Params} {ref qry : OMap} {rev : Bool} {it peak : Int} {a : List Seg} :
    segmentsOfPeak P ref qry rev it peak = .ok a ↔
      scoreAll? P (peakPositions P ref qry rev it peak) ≠ none ∧
        a = getSegments P peak (peakPositions P ref qry rev it peak) := by
  unfold segmentsOfPeak peakPositions
  dsimp only
  cases scoreAll? P (engineAlign P.md ref qry peak (peak + qry.length) rev it) with
  | none => exact ⟨nofun, fun h => absurd rfl h.1⟩
  | some v => exact ⟨fun h => ⟨nofun, (Except.ok.inj h).symm⟩, fun h => congrArg Except.ok h.2.symm⟩

theorem mem_segmentsOfPeaks {P : Params} {ref qry : OMap} {rev : Bool} : ∀ {peaks : List Int} {it : Int}
    {segs : List Seg}, segmentsOfPeaks P ref qry rev it peaks = .ok segs →
    ∀ s ∈ segs, ∃ p ∈ peaks, ∃ it' a, segmentsOfPeak P ref qry rev it' p = .ok a ∧ s ∈ a
  | [], _, _, h, s, hs => by cases h; cases hs
  | p :: ps, it, _, h, s, hs => by
    obtain ⟨a, ha, h⟩ := (Exc.bind_ok ..).1 h
    obtain ⟨b, hb, h⟩ := (Exc.bind_ok ..).1 h
    cases h
    rcases List.mem_append.1 hs with hs | hs
    · exact ⟨p, List.mem_cons_self, it, a, ha, hs⟩
    · obtain ⟨q, hq, r⟩ := mem_segmentsOfPeaks hb s hs
      exact ⟨q, List.mem_cons_of_mem _ hq, r⟩

namespace Compose

theorem segmentsOfPeaks_ok (P : Params) (hsu : P.su ≤ 0) (ref qry : OMap) (rev : Bool) :
    ∀ (peaks : List Int) (it : Int), ∃ segs, segmentsOfPeaks P ref qry rev it peaks = .ok segs
  | [], it => ⟨[], rfl⟩
  | p :: ps, it => by
    obtain ⟨b, hb⟩ := segmentsOfPeaks_ok P hsu ref qry rev ps (it + 1)
    refine ⟨getSegments P p (peakPositions P ref qry rev it p) ++ b, ?_⟩
    simp only [segmentsOfPeaks, segmentsOfPeak_ok_iff.2 ⟨scoreAll?_ne_none P hsu _, rfl⟩, hb, bind, Except.bind, pure,
      Except.pure]

theorem factoryLike_pairs_ne_nil {s : Seg} (hF : FactoryLike s) (he : s.isEmpty = false) :
    s.pairs ≠ [] := by
  rcases hF.2.first with h0 | ⟨p, hp⟩
  · simp [Seg.isEmpty, h0] at he
  · obtain ⟨peak, items⟩ := s
    cases items with
    | nil => simp at hp
    | cons a tl =>
      simp only [List.head?_cons, Option.some.injEq] at hp
      subst hp
      simp [Seg.pairs, APos.pair?]

theorem forall2_mem {α β} {R : α → β → Prop} {as : List α} {bs : List β} (h : Forall2 R as bs) :
    ∀ a ∈ as, ∃ b ∈ bs, R a b := by
  induction h with
  | nil => intro a ha; cases ha
  | cons hr _ ih =>
    intro a ha
    rcases List.mem_cons.1 ha with rfl | ha
    · exact ⟨_, List.mem_cons_self .., hr⟩
    · obtain ⟨b, hb, hab⟩ := ih a ha
      exact ⟨b, List.mem_cons_of_mem _ hb, hab⟩

theorem resolveConflicts_cases (P : Params) (C : ChainCfg) (segs : List Seg) :
    resolveConflicts P C segs = .ok segs ∨
    (chainSegs P C segs = none ∧ resolveConflicts P C segs = .error .indexError) ∨
    (chainSegs P C segs = some [] ∧ resolveConflicts P C segs = .ok []) ∨
    ∃ c cs, chainSegs P C segs = some (c :: cs) ∧ resolveConflicts P C segs = resolveFrom P c cs := by
  match segs with
  | [] => exact .inl rfl
  | [_] => exact .inl rfl
  | a :: b :: t =>
    have e : resolveConflicts P C (a :: b :: t) =
        match chainSegs P C (a :: b :: t) with
        | none => .error .indexError
        | some [] => .ok []
        | some (c :: cs) => resolveFrom P c cs := rfl
    rw [e]
    cases chainSegs P C (a :: b :: t) with
    | none => exact .inr (.inl ⟨rfl, rfl⟩)
    | some ch =>
      cases ch with
      | nil => exact .inr (.inr (.inl ⟨rfl, rfl⟩))
      | cons c cs => exact .inr (.inr (.inr ⟨c, cs, rfl, rfl⟩))

theorem resolveConflicts_spec (P : Params) (C : ChainCfg) (segs : List Seg)
    (hF : ∀ s ∈ segs, FactoryLike s) :
    ∃ out, resolveConflicts P C segs = .ok out ∧
      ∀ o ∈ out, ∃ i ∈ segs, o.items <:+: i.items ∧ o.peak = i.peak := by
  rcases resolveConflicts_cases P C segs with h | ⟨hch, _⟩ | ⟨_, h⟩ | ⟨c, cs, hch, h⟩
  · exact ⟨segs, h, fun o ho => ⟨o, ho, List.infix_refl _, rfl⟩⟩
  · obtain ⟨s, hs, he, hp⟩ := (chainSegs_none_iff P C _).1 hch
    exact absurd hp (factoryLike_pairs_ne_nil (hF s hs) he)
  · exact ⟨[], h, nofun⟩
  · have hsub := chainSegs_subset hch
    have hF' : ∀ s ∈ c :: cs, FactoryLike s := fun s hs => hF s (hsub s hs)
    obtain ⟨out, hout⟩ := resolveFrom_total P c cs hF'
    refine ⟨out, h.trans hout, fun o ho => ?_⟩
    obtain ⟨i, hi, hoi⟩ := forall2_mem (resolveFrom_subrun hout hF') o ho
    exact ⟨i, hsub i hi, hoi⟩

end Compose

theorem factory_segments_ok (P : Params) (hP : GoodParams P) (ref qry : OMap) (rev : Bool) (it peak : Int)
    (hr : Ascending ref.positions) (hq : Ascending qry.positions) :
    ∀ s ∈ getSegments P peak (peakPositions P ref qry rev it peak),
      FactoryLike s ∧ s.peak = peak ∧ s.items <:+: peakPositions P ref qry rev it peak :=
  segments_ok P hP peak _ (engine_pyNodup ..) (engine_pairsAscending_weak _ _ _ _ _ _ _ hr hq)

namespace Compose

theorem segmentsOfPeaks_segments_ok (P : Params) (hP : GoodParams P) {ref qry : OMap} {rev : Bool}
    (hr : Ascending ref.positions) (hq : Ascending qry.positions) {peaks : List Int} {it : Int} {segs : List Seg}
    (h : segmentsOfPeaks P ref qry rev it peaks = .ok segs) :
    ∀ s ∈ segs, ∃ peak ∈ peaks, ∃ it',
      FactoryLike s ∧ s.peak = peak ∧ s.items <:+: peakPositions P ref qry rev it' peak := by
  intro s hs
  obtain ⟨pk, hpk, it', a, ha, hsa⟩ := mem_segmentsOfPeaks h s hs
  rw [(segmentsOfPeak_ok_iff.1 ha).2] at hsa
  exact ⟨pk, hpk, it', factory_segments_ok P hP ref qry rev it' pk hr hq s hsa⟩

theorem alignerAlign_spec (P : Params) (C : ChainCfg) (hP : GoodParams P) (ref qry : OMap)
    (peaks : List Int) (rev : Bool) (it : Int)
    (hr : Ascending ref.positions) (hq : Ascending qry.positions) :
    ∃ out, alignerAlign P C ref qry peaks rev it
        = .ok (Row.create P out qry.id ref.id qry.length ref.length rev) ∧
      ∀ s ∈ out, ∃ peak ∈ peaks, ∃ it',
        s.peak = peak ∧ s.items <:+: peakPositions P ref qry rev it' peak := by
  obtain ⟨segs, hsegs⟩ := segmentsOfPeaks_ok P hP.su_nonpos ref qry rev peaks it
  have hok := segmentsOfPeaks_segments_ok P hP hr hq hsegs
  obtain ⟨out, hout, hsub⟩ := resolveConflicts_spec P C segs (fun s hs => by
    obtain ⟨_, _, _, h, _⟩ := hok s hs; exact h)
  refine ⟨out, alignerAlign_ok_iff.2 ⟨segs, out, hsegs, hout, rfl⟩, ?_⟩
  · intro s hs
    obtain ⟨i, hi, hinf, hpk⟩ := hsub s hs
    obtain ⟨pk, hpkm, it', _, hipk, hiinf⟩ := hok i hi
    exact ⟨pk, hpkm, it', hpk.trans hipk, hinf.trans hiinf⟩

end Compose

/-- building a candidate never raises, also with coincident labels (C07) -/
theorem alignerAlign_total_weak (P : Params) (C : ChainCfg) (hP : GoodParams P) (ref qry : OMap) (peaks : List Int)
    (rev : Bool) (it : Int) (hr : Ascending ref.positions) (hq : Ascending qry.positions) :
    ∃ row, alignerAlign P C ref qry peaks rev it = .ok row :=
  let ⟨_, h, _⟩ := alignerAlign_spec P C hP ref qry peaks rev it hr hq
  ⟨_, h⟩

/-- what a candidate row is: every segment is a contiguous run of the position list of one of the seed peaks (so each
    label in its span is counted exactly once), carrying that peak — also with coincident labels (C04) -/
theorem alignerAlign_segments_infix (P : Params) (C : ChainCfg) (hP : GoodParams P) (ref qry : OMap) (peaks : List Int)
    (rev : Bool) (it : Int) (hr : Ascending ref.positions) (hq : Ascending qry.positions)
    (row : Row) (h : alignerAlign P C ref qry peaks rev it = .ok row) :
    ∀ s ∈ row.segments, ∃ peak ∈ peaks, ∃ it',
      s.peak = peak ∧ s.items <:+: peakPositions P ref qry rev it' peak := by
  obtain ⟨out, h', hs⟩ := alignerAlign_spec P C hP ref qry peaks rev it hr hq
  cases h'.symm.trans h
  exact hs

/-- inside one segment of a candidate the pairs are strictly ascending on both maps, also with
    coincident labels (C01): a coincident label is never paired together with its twin -/
theorem alignerAlign_segment_valid_weak (P : Params) (C : ChainCfg) (hP : GoodParams P) (ref qry : OMap)
    (peaks : List Int) (rev : Bool) (it : Int) (hr : Ascending ref.positions) (hq : Ascending qry.positions)
    (row : Row) (h : alignerAlign P C ref qry peaks rev it = .ok row) :
    ∀ s ∈ row.segments, PairsAscending s.items := by
  intro s hs
  obtain ⟨pk, _, it', _, hinf⟩ := alignerAlign_segments_infix P C hP ref qry peaks rev it hr hq row h s hs
  exact List.Pairwise.sublist (hinf.sublist.filterMap APos.pair?)
    (engine_pairsAscending_weak P.md ref qry pk (pk + qry.length) rev it' hr hq)

theorem alignerAlign_labels_real_weak (P : Params) (C : ChainCfg) (hP : GoodParams P) (ref qry : OMap) (peaks : List Int)
    (rev : Bool) (it : Int) (hr : Ascending ref.positions) (hq : Ascending qry.positions)
    (row : Row) (h : alignerAlign P C ref qry peaks rev it = .ok row) :
    ∀ p ∈ row.pairs, p.r ∈ ref.labels false ∧ p.q ∈ qry.labels rev := by
  intro p hp
  obtain ⟨s, hs, hps⟩ := List.mem_flatMap.1 hp
  obtain ⟨peak, _, it', _, hinf⟩ := alignerAlign_segments_infix P C hP ref qry peaks rev it hr hq row h s hs
  exact engine_pair_labels (hinf.subset (Conflict.mem_pairsOf.1 hps))

theorem valid_sites_of_ascending_weak (ref qry : OMap) (rev : Bool)
    (hr : Ascending ref.positions) (hq : Ascending qry.positions) (ps : List Pr)
    (hreal : ∀ p ∈ ps, p.r ∈ ref.labels false ∧ p.q ∈ qry.labels rev)
    (hasc : ps.Pairwise (fun a b => a.r.pos < b.r.pos ∧ a.q.pos < b.q.pos)) :
    ValidMatching rev (sitePairs ps) := by
  unfold ValidMatching sitePairs
  rw [List.pairwise_map]
  refine hasc.imp_of_mem ?_
  intro a b ha hb hab
  obtain ⟨har, haq⟩ := hreal a ha
  obtain ⟨hbr, hbq⟩ := hreal b hb
  have h1 := labels_pos_lt_site ref false hr a.r b.r har hbr hab.1
  have h2 := labels_pos_lt_site qry rev hq a.q b.q haq hbq hab.2
  exact ⟨by simpa using h1, h2⟩

theorem candidate_sites_valid_weak (P : Params) (C : ChainCfg) (hP : GoodParams P) (ref qry : OMap) (peaks : List Int)
    (rev : Bool) (it : Int) (hr : Ascending ref.positions) (hq : Ascending qry.positions)
    (row : Row) (h : alignerAlign P C ref qry peaks rev it = .ok row)
    (hasc : row.pairs.Pairwise (fun a b => a.r.pos < b.r.pos ∧ a.q.pos < b.q.pos)) :
    ValidMatching rev (sitePairs row.pairs) ∧
    (∀ p ∈ row.pairs, p.r ∈ ref.labels false ∧ p.q ∈ qry.labels rev) := by
  have hreal := alignerAlign_labels_real_weak P C hP ref qry peaks rev it hr hq row h
  exact ⟨valid_sites_of_ascending_weak ref qry rev hr hq row.pairs hreal hasc, hreal⟩

theorem candidate_single_segment_valid_weak (P : Params) (C : ChainCfg) (hP : GoodParams P) (ref qry : OMap) (peaks : List Int)
    (rev : Bool) (it : Int) (hr : Ascending ref.positions) (hq : Ascending qry.positions)
    (row : Row) (h : alignerAlign P C ref qry peaks rev it = .ok row)
    (h1 : (row.segments.filter (fun s => !s.items.isEmpty)).length ≤ 1) :
    ValidMatching rev (sitePairs row.pairs) := by
  have hreal := alignerAlign_labels_real_weak P C hP ref qry peaks rev it hr hq row h
  have hseg := alignerAlign_segment_valid_weak P C hP ref qry peaks rev it hr hq row h
  apply valid_sites_of_ascending_weak ref qry rev hr hq row.pairs hreal
  -- only the one non-empty segment contributes pairs
  have h0 : ∀ s ∈ row.segments, (!s.items.isEmpty) = false → Seg.pairs s = [] := by
    intro s _ hs
    have : s.items = [] := by simpa using hs
    simp [Seg.pairs, this]
  rw [Row.pairs, ← flatMap_filter_of_nil _ _ _ h0]
  rcases eq_nil_or_singleton h1 with hf | ⟨s, hf⟩
  · rw [hf]
    exact List.Pairwise.nil
  · rw [hf, List.flatMap_singleton]
    exact hseg s (List.mem_filter.1 (hf ▸ List.mem_singleton_self s)).1

theorem alignerAlign_total (P : Params) (C : ChainCfg) (hP : GoodParams P) (ref qry : OMap) (peaks : List Int)
    (rev : Bool) (it : Int) (hr : StrictAscending ref.positions) (hq : StrictAscending qry.positions) :
    ∃ row, alignerAlign P C ref qry peaks rev it = .ok row :=
  alignerAlign_total_weak P C hP ref qry peaks rev it (asc_of_strict hr) (asc_of_strict hq)

theorem alignerAlign_accounted (P : Params) (C : ChainCfg) (hP : GoodParams P) (ref qry : OMap) (peaks : List Int)
    (rev : Bool) (it : Int) (hr : StrictAscending ref.positions) (hq : StrictAscending qry.positions)
    (row : Row) (h : alignerAlign P C ref qry peaks rev it = .ok row) :
    ∀ s ∈ row.segments, s.items = [] ∨
      ∃ peak ∈ peaks, ∃ it', s.peak = peak ∧ s.items <:+: peakPositions P ref qry rev it' peak :=
  fun s hs => Or.inr (alignerAlign_segments_infix P C hP ref qry peaks rev it (asc_of_strict hr) (asc_of_strict hq) row h s hs)

theorem candidate_sites_valid (P : Params) (C : ChainCfg) (hP : GoodParams P) (ref qry : OMap) (peaks : List Int)
    (rev : Bool) (it : Int) (hr : StrictAscending ref.positions) (hq : StrictAscending qry.positions)
    (row : Row) (h : alignerAlign P C ref qry peaks rev it = .ok row)
    (hasc : row.pairs.Pairwise (fun a b => a.r.pos < b.r.pos ∧ a.q.pos < b.q.pos)) :
    ValidMatching rev (sitePairs row.pairs) ∧
    (∀ p ∈ row.pairs, p.r ∈ ref.labels false ∧ p.q ∈ qry.labels rev) :=
  candidate_sites_valid_weak P C hP ref qry peaks rev it (asc_of_strict hr) (asc_of_strict hq) row h hasc

theorem candidate_single_segment_valid (P : Params) (C : ChainCfg) (hP : GoodParams P) (ref qry : OMap) (peaks : List Int)
    (rev : Bool) (it : Int) (hr : StrictAscending ref.positions) (hq : StrictAscending qry.positions)
    (row : Row) (h : alignerAlign P C ref qry peaks rev it = .ok row)
    (h1 : (row.segments.filter (fun s => !s.items.isEmpty)).length ≤ 1) :
    ValidMatching rev (sitePairs row.pairs) :=
  candidate_single_segment_valid_weak P C hP ref qry peaks rev it (asc_of_strict hr) (asc_of_strict hq) row h h1

theorem factory_segments_strictCoords (P : Params) (hP : GoodParams P) (ref qry : OMap) (rev : Bool)
    (it1 it2 peak1 peak2 : Int) (hr : StrictAscending ref.positions) (hq : StrictAscending qry.positions)
    (s1 s2 : Seg) (h1 : s1 ∈ getSegments P peak1 (peakPositions P ref qry rev it1 peak1))
    (h2 : s2 ∈ getSegments P peak2 (peakPositions P ref qry rev it2 peak2)) : StrictCoords s1 s2 := by
  have hr' := asc_of_strict hr
  have hq' := asc_of_strict hq
  have i1 := (factory_segments_ok P hP ref qry rev it1 peak1 hr' hq' s1 h1).2.2
  have i2 := (factory_segments_ok P hP ref qry rev it2 peak2 hr' hq' s2 h2).2.2
  intro p hp p' hp'
  have m1 : APos.pair p ∈ peakPositions P ref qry rev it1 peak1 :=
    Conflict.mem_pairsOf.1 ((i1.sublist.filterMap _).subset hp)
  have m2 : APos.pair p' ∈ peakPositions P ref qry rev it2 peak2 :=
    Conflict.mem_pairsOf.1 ((i2.sublist.filterMap _).subset hp')
  obtain ⟨r1, q1⟩ := engine_pair_labels m1
  obtain ⟨r2, q2⟩ := engine_pair_labels m2
  exact ⟨labels_pos_inj ref false hr _ r1 _ r2, labels_pos_inj qry rev hq _ q1 _ q2⟩

namespace Compose

theorem separated_trans {a b c : Seg} (hab : Separated a b) (hbc : Separated b c)
    (hb : b.pairs ≠ []) : Separated a c := by
  intro p hp p' hp'
  obtain ⟨m, hm⟩ := List.exists_mem_of_ne_nil _ hb
  have h1 := hab p hp m hm
  have h2 := hbc m hm p' hp'
  omega

theorem consec_pairwise_separated : ∀ (l : List Seg), Consec Separated l →
    (∀ s ∈ l, s.pairs ≠ []) → l.Pairwise Separated
  | [], _, _ => List.Pairwise.nil
  | [a], _, _ => List.pairwise_singleton _ _
  | a :: b :: t, hc, hp => by
    have ih := Compose.consec_pairwise_separated (b :: t) hc.2 (fun s hs => hp s (List.mem_cons_of_mem _ hs))
    refine List.pairwise_cons.2 ⟨?_, ih⟩
    intro x hx
    rcases List.mem_cons.1 hx with rfl | hx
    · exact hc.1
    · exact Compose.separated_trans hc.1 ((List.pairwise_cons.1 ih).1 x hx)
        (hp b (List.mem_cons_of_mem _ (List.mem_cons_self ..)))

end Compose

/-- `hp`: separation is transitive only through members that keep a pair -/
theorem resolveFrom_all_separated (P : Params) (c : Seg) (cs out : List Seg) (bs : List Branch)
    (h : resolveFromB P c cs = .ok (out, bs)) (hF : ∀ s ∈ c :: cs, FactoryLike s)
    (hS : ∀ a ∈ c :: cs, ∀ b ∈ c :: cs, StrictCoords a b) (hb : ∀ b ∈ bs, b ≠ Branch.interior)
    (hp : ∀ s ∈ out, s.pairs ≠ []) :
    out.Pairwise Separated :=
  consec_pairwise_separated out (resolveFrom_adjacent_separated h hF hS hb) hp

end Coma.Proofs
