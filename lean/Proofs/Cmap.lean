import Props.Defs
import Proofs.SortLemmas
import Proofs.Labels
import Proofs.ExceptLemmas
/-
  C17: the CMAP reader and trimming.  `readCmap` is `mapM parseGroup` over the sorted ids of the selected rows, with the
  unlabelled molecules dropped; `parseGroup` is a look-up of the end marker and a sort of the label coordinates.
  `read_core` says what the reader returns in terms of the selected rows, `readCmap_spec` in terms of all rows.
-/
namespace Coma.Proofs
open Coma.Spec Coma.Proofs.Exc

/-- the rows the reader looks at (`Coma.Props.selected` of Props/C17.lean is the same function) -/
def selected' (rows : List CRow) (ids : List Int) : List CRow :=
  if ids.isEmpty then rows else rows.filter (fun r => ids.contains r.id)

def labelCoords' (rows : List CRow) (id : Int) : List Int :=
  (rows.filter (fun r => r.id = id ∧ r.chan ≠ 0)).map (·.pos)

namespace Cmap

theorem mem_insertUniq (a x : Int) (l : List Int) : x ∈ insertUniq a l ↔ x = a ∨ x ∈ l := by
  induction l with
  | nil => simp [insertUniq]
  | cons b bs ih =>
    simp only [insertUniq]
    split
    · simp
    · split
      · rename_i h; subst h; simp
      · simp [ih]; constructor <;> (intro h; rcases h with h | h | h <;> simp [h])

theorem insertUniq_sorted (a : Int) (l : List Int) (h : l.Pairwise (· < ·)) :
    (insertUniq a l).Pairwise (· < ·) := by
  induction l with
  | nil => simp [insertUniq]
  | cons b bs ih =>
    simp only [insertUniq]
    rw [List.pairwise_cons] at h
    split
    · rename_i hab
      rw [List.pairwise_cons]
      refine ⟨?_, List.pairwise_cons.2 h⟩
      intro x hx
      rcases List.mem_cons.1 hx with rfl | hx
      · exact hab
      · exact Int.lt_trans hab (h.1 x hx)
    · split
      · exact List.pairwise_cons.2 h
      · rw [List.pairwise_cons]
        refine ⟨?_, ih h.2⟩
        intro x hx
        rcases (mem_insertUniq a x bs).1 hx with rfl | hx
        · omega
        · exact h.1 x hx

theorem sortedIds_sorted (rows : List CRow) : (sortedIds rows).Pairwise (· < ·) := by
  induction rows with
  | nil => simp [sortedIds]
  | cons r rs ih => exact insertUniq_sorted _ _ ih

theorem mem_sortedIds (rows : List CRow) (i : Int) : i ∈ sortedIds rows ↔ ∃ r ∈ rows, r.id = i := by
  induction rows with
  | nil => simp [sortedIds]
  | cons r rs ih =>
    simp only [sortedIds, mem_insertUniq, ih, List.mem_cons, exists_eq_or_imp]
    constructor <;> (intro h; rcases h with h | h <;> simp [h])

theorem sortedIds_perm (rows rows' : List CRow) (hp : rows.Perm rows') :
    sortedIds rows = sortedIds rows' := by
  apply eq_of_sorted_of_mem id _ _ (sortedIds_sorted _) (sortedIds_sorted _)
  intro x
  rw [mem_sortedIds, mem_sortedIds]
  constructor <;> rintro ⟨r, hr, h⟩
  · exact ⟨r, hp.mem_iff.1 hr, h⟩
  · exact ⟨r, hp.mem_iff.2 hr, h⟩

theorem labelCoords_eq (rows : List CRow) (i : Int) :
    ((rows.filter (fun r => r.id = i)).filter (fun r => r.chan ≠ 0)).map (·.pos)
      = labelCoords' rows i := by
  unfold labelCoords'
  rw [List.filter_filter]
  congr 1
  apply List.filter_congr
  intro r _
  by_cases h1 : r.id = i <;> by_cases h2 : r.chan = 0 <;> simp [h1, h2]

theorem parseGroup_cases (unit i : Int) (rows : List CRow) :
    parseGroup unit i rows =
      match (rows.filter (fun r => r.id = i)).find? (fun r => r.chan = 0) with
      | none => .error .indexError
      | some em => .ok
        (if labelCoords' rows i = [] then none
          else some ⟨i, Int.tdiv em.pos unit, isort parseGroup.id_ (labelCoords' rows i), 0⟩) := by
  unfold parseGroup
  simp only [labelCoords_eq]
  cases (rows.filter (fun r => r.id = i)).find? (fun r => r.chan = 0) with
  | none => rfl
  | some em =>
    simp only [List.isEmpty_iff, isort_eq_nil]
    exact (apply_ite Except.ok _ _ _).symm

theorem parseGroup_error_iff (unit i : Int) (rows : List CRow) :
    (∃ e, parseGroup unit i rows = .error e) ↔ ∀ r ∈ rows, r.id = i → r.chan ≠ 0 := by
  rw [parseGroup_cases]
  cases hf : (rows.filter (fun r => r.id = i)).find? (fun r => r.chan = 0) with
  | none =>
    simp only [List.find?_eq_none, List.mem_filter, decide_eq_true_eq] at hf
    exact ⟨fun _ r hr hi => hf r ⟨hr, hi⟩, fun _ => ⟨_, rfl⟩⟩
  | some em =>
    have h1 := List.find?_some hf
    have h2 := List.mem_of_find?_eq_some hf
    simp only [List.mem_filter, decide_eq_true_eq] at h1 h2
    exact ⟨fun ⟨_, h⟩ => (nomatch h), fun h => absurd h1 (h em h2.1 h2.2)⟩

theorem parseGroup_ok_iff (unit i : Int) (rows : List CRow) (o : Option OMap) :
    parseGroup unit i rows = .ok o ↔
      ∃ em, (rows.filter (fun r => r.id = i)).find? (fun r => r.chan = 0) = some em ∧
        o = if labelCoords' rows i = [] then none
          else some ⟨i, Int.tdiv em.pos unit, isort parseGroup.id_ (labelCoords' rows i), 0⟩ := by
  rw [parseGroup_cases]
  cases (rows.filter (fun r => r.id = i)).find? (fun r => r.chan = 0) with
  | none => exact ⟨fun h => (nomatch h), fun ⟨_, h, _⟩ => (nomatch h)⟩
  | some em => exact ⟨fun h => ⟨em, rfl, (Except.ok.inj h).symm⟩, fun ⟨_, h, e⟩ => by cases h; rw [e]⟩

theorem readCmap_eq (unit : Int) (rows : List CRow) (ids : List Int) :
    readCmap unit rows ids =
      ((sortedIds (selected' rows ids)).mapM fun i => parseGroup unit i (selected' rows ids)).map
        (List.filterMap id) := by
  rw [← bind_pure_eq_map]
  rfl

theorem readCmap_ok_iff (unit : Int) (rows : List CRow) (ids : List Int) (ms : List OMap) :
    readCmap unit rows ids = .ok ms ↔
      (∀ i ∈ sortedIds (selected' rows ids), ∃ b, parseGroup unit i (selected' rows ids) = .ok b) ∧
      ms = (sortedIds (selected' rows ids)).filterMap
              (fun i => toOk (parseGroup unit i (selected' rows ids))) := by
  rw [readCmap_eq]
  exact mapM_filterMap_ok_iff _ id _ ms

theorem selected_cons (rows : List CRow) (a : Int) (as : List Int) :
    selected' rows (a :: as) = rows.filter (fun r => (a :: as).contains r.id) := rfl

theorem mem_selected (rows : List CRow) (ids : List Int) (r : CRow) :
    r ∈ selected' rows ids ↔ r ∈ rows ∧ (ids = [] ∨ r.id ∈ ids) := by
  cases ids with
  | nil => simp [selected']
  | cons a as => simp [selected_cons]

theorem selected_sublist (rows : List CRow) (ids : List Int) : (selected' rows ids).Sublist rows := by
  cases ids with
  | nil => exact List.Sublist.refl _
  | cons a as => exact List.filter_sublist

theorem selected_perm (rows rows' : List CRow) (ids : List Int) (hp : rows.Perm rows') :
    (selected' rows ids).Perm (selected' rows' ids) := by
  cases ids with
  | nil => exact hp
  | cons a as => exact hp.filter _

theorem selected_filter (rows : List CRow) (ids : List Int) (p : CRow → Bool) (i : Int)
    (hi : ids = [] ∨ i ∈ ids) (hp : ∀ r, p r = true → r.id = i) :
    (selected' rows ids).filter p = rows.filter p := by
  cases ids with
  | nil => rfl
  | cons a as =>
    rw [selected_cons, List.filter_filter]
    apply List.filter_congr
    intro r _
    cases hpr : p r with
    | false => rfl
    | true =>
      have : r.id = i := hp r hpr
      rcases hi with hi | hi
      · cases hi
      · simp [this, hi]

theorem labelCoords_selected (rows : List CRow) (ids : List Int) (i : Int)
    (hi : ids = [] ∨ i ∈ ids) : labelCoords' (selected' rows ids) i = labelCoords' rows i := by
  unfold labelCoords'
  rw [selected_filter rows ids _ i hi]
  intro r hr
  simp only [decide_eq_true_eq] at hr
  exact hr.1

theorem read_core (unit : Int) (rows : List CRow) (ids : List Int) (ms : List OMap)
    (h : readCmap unit rows ids = .ok ms) :
    StrictAscending (ms.map (·.id)) ∧
    (∀ m ∈ ms, (∃ r ∈ selected' rows ids, r.id = m.id) ∧
        labelCoords' (selected' rows ids) m.id ≠ [] ∧
        m.positions = isort parseGroup.id_ (labelCoords' (selected' rows ids) m.id) ∧ m.shift = 0 ∧
        ∃ em, ((selected' rows ids).filter (fun r => r.id = m.id)).find? (fun r => r.chan = 0) = some em ∧
              m.length = Int.tdiv em.pos unit) ∧
    (∀ r ∈ selected' rows ids, r.chan ≠ 0 → ∃ m ∈ ms, m.id = r.id) := by
  obtain ⟨hok, rfl⟩ := (readCmap_ok_iff unit rows ids ms).1 h
  generalize selected' rows ids = R at hok ⊢
  -- a molecule comes from the group of an id that has labels, and is determined by it
  have key : ∀ i ∈ sortedIds R, ∀ m, toOk (parseGroup unit i R) = some m → labelCoords' R i ≠ [] ∧
      ∃ em, (R.filter (fun r => r.id = i)).find? (fun r => r.chan = 0) = some em ∧
        m = ⟨i, Int.tdiv em.pos unit, isort parseGroup.id_ (labelCoords' R i), 0⟩ := by
    intro i hi m hm
    obtain ⟨b, hb⟩ := hok i hi
    obtain ⟨em, hem, he⟩ := (parseGroup_ok_iff unit i R b).1 hb
    rw [hb, toOk_ok, he] at hm
    split at hm
    · cases hm
    · exact ⟨‹_›, em, hem, (Option.some.inj hm).symm⟩
  refine ⟨?_, fun m hm => ?_, fun r hr hch => ?_⟩
  · have hsub := filterMap_keys_sublist id (fun m : OMap => m.id) _ _ fun i hi m hm => by
      obtain ⟨_, _, _, rfl⟩ := key i hi m hm; rfl
    rw [List.map_id] at hsub
    exact (sortedIds_sorted R).sublist hsub
  · obtain ⟨i, hi, hm⟩ := List.mem_filterMap.1 hm
    obtain ⟨hne, em, hem, rfl⟩ := key i hi m hm
    exact ⟨(mem_sortedIds R _).1 hi, hne, rfl, rfl, em, hem, rfl⟩
  · -- the group of a labelled row has labels
    have hi : r.id ∈ sortedIds R := (mem_sortedIds R _).2 ⟨r, hr, rfl⟩
    have hne : labelCoords' R r.id ≠ [] := List.ne_nil_of_mem
      (List.mem_map.2 ⟨r, List.mem_filter.2 ⟨hr, by simp [hch]⟩, rfl⟩)
    obtain ⟨b, hb⟩ := hok _ hi
    obtain ⟨em, hem, rfl⟩ := (parseGroup_ok_iff unit r.id R b).1 hb
    exact ⟨_, List.mem_filterMap.2 ⟨r.id, hi, by rw [hb, toOk_ok, if_neg hne]⟩, rfl⟩

theorem parseGroup_perm (unit i : Int) (R R' : List CRow) (hp : R.Perm R')
    (h1 : (R.filter (fun r => r.id = i ∧ r.chan = 0)).length ≤ 1) :
    parseGroup unit i R = parseGroup unit i R' := by
  rw [parseGroup_cases, parseGroup_cases, List.find?_filter, List.find?_filter]
  have hfind : R.find? (fun a => decide (decide (a.id = i) = true ∧ decide (a.chan = 0) = true))
      = R'.find? (fun a => decide (decide (a.id = i) = true ∧ decide (a.chan = 0) = true)) := by
    apply find?_eq_of_perm _ hp
    have : R.filter (fun a => decide (decide (a.id = i) = true ∧ decide (a.chan = 0) = true))
        = R.filter (fun r => r.id = i ∧ r.chan = 0) := by
      apply List.filter_congr; intro r _; simp
    rw [this]; exact h1
  have hlc : (labelCoords' R i).Perm (labelCoords' R' i) := (hp.filter _).map _
  have hs := isort_eq_of_perm parseGroup.id_ hlc fun _ _ _ _ h => h
  have hnil : labelCoords' R i = [] ↔ labelCoords' R' i = [] := by
    constructor
    · intro h; rw [h] at hlc; exact hlc.nil_eq.symm
    · intro h; rw [h] at hlc; exact List.Perm.eq_nil hlc
  rw [hfind, hs]
  simp only [hnil]

end Cmap
open Cmap

theorem readCmap_spec (unit : Int) (rows : List CRow) (ids : List Int) (ms : List OMap)
    (h : readCmap unit rows ids = .ok ms) :
    StrictAscending (ms.map (·.id)) ∧
    (∀ m ∈ ms, (ids = [] ∨ m.id ∈ ids) ∧
        m.positions.Perm (labelCoords' rows m.id) ∧ Ascending m.positions ∧ m.positions ≠ [] ∧ m.shift = 0 ∧
        ∃ em, (rows.filter (fun r => r.id = m.id)).find? (fun r => r.chan = 0) = some em ∧
              m.length = Int.tdiv em.pos unit) ∧
    (∀ r ∈ selected' rows ids, r.chan ≠ 0 → ∃ m ∈ ms, m.id = r.id) := by
  obtain ⟨c1, c2, c3⟩ := read_core unit rows ids ms h
  refine ⟨c1, ?_, c3⟩
  intro m hm
  obtain ⟨⟨r, hr, hrid⟩, hne, hpos, hsh, em, hem, hlen⟩ := c2 m hm
  have hi : ids = [] ∨ m.id ∈ ids := by
    rw [← hrid]; exact ((mem_selected rows ids r).1 hr).2
  rw [labelCoords_selected rows ids m.id hi] at hne hpos
  rw [selected_filter rows ids _ m.id hi (by intro r hr; simpa using hr)] at hem
  refine ⟨hi, ?_, ?_, ?_, hsh, em, hem, hlen⟩
  · rw [hpos]; exact isort_perm _ _
  · rw [hpos]
    have := isort_sorted parseGroup.id_ (labelCoords' rows m.id)
    rw [List.pairwise_map] at this
    exact this
  · rw [hpos, Ne, isort_eq_nil]; exact hne

theorem readCmap_selected (unit : Int) (rows : List CRow) (ids : List Int) :
    readCmap unit rows ids = readCmap unit (selected' rows ids) [] := by
  cases ids <;> rfl

theorem readCmap_perm (unit : Int) (rows rows' : List CRow) (ids : List Int) (hp : rows.Perm rows')
    (h1 : ∀ id, (rows.filter (fun r => r.id = id ∧ r.chan = 0)).length ≤ 1) :
    readCmap unit rows ids = readCmap unit rows' ids := by
  have hsp := selected_perm rows rows' ids hp
  rw [readCmap_eq, readCmap_eq, ← sortedIds_perm _ _ hsp,
    mapM_congr _ (fun i => parseGroup unit i (selected' rows' ids))]
  intro i _
  exact parseGroup_perm unit i _ _ hsp
    (Nat.le_trans ((selected_sublist rows ids).filter _).length_le (h1 i))

theorem lastD_map_sub (c d : Int) (l : List Int) :
    lastD (d - c) (l.map (fun p => p - c)) = lastD d l - c := by
  rw [lastD_eq, lastD_eq, List.getLast?_map]
  cases l.getLast? <;> rfl

theorem trim_spec (m : OMap) (p0 : Int) (ps : List Int) (hp : m.positions = p0 :: ps) :
    m.trim.positions = m.positions.map (· - p0) ∧
    m.trim.positions.head? = some 0 ∧
    m.trim.positions.length = m.positions.length ∧
    m.trim.length = lastD p0 m.positions - p0 + 1 ∧
    m.trim.id = m.id ∧
    m.trim.trim = m.trim := by
  obtain ⟨i, len, pos, sh⟩ := m
  simp only at hp
  subst hp
  have ht : OMap.trim ⟨i, len, p0 :: ps, sh⟩
      = ⟨i, lastD p0 (p0 :: ps) - p0 + 1, (p0 :: ps).map (fun p => p - p0), 0⟩ := rfl
  rw [ht]
  refine ⟨rfl, by simp, by simp, rfl, rfl, ?_⟩
  have ht2 : OMap.trim ⟨i, lastD p0 (p0 :: ps) - p0 + 1, (p0 :: ps).map (fun p => p - p0), 0⟩
      = ⟨i, lastD (p0 - p0) ((p0 :: ps).map (fun p => p - p0)) - (p0 - p0) + 1,
          ((p0 :: ps).map (fun p => p - p0)).map (fun p => p - (p0 - p0)), 0⟩ := rfl
  rw [ht2, lastD_map_sub]
  simp

theorem trim_empty (m : OMap) (h : m.positions = []) : m.trim = m := by
  unfold OMap.trim
  rw [h]

end Coma.Proofs
