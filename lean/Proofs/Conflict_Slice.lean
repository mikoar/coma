import Props.Defs
import Proofs.ListLemmas

/-
  What the parts of a resolver step compute: `Seg.sub` of a suffix or a prefix, the two comparisons, `startPos` /
  `endPos`, `trimEnd` and `slice`.
-/
namespace Coma.Proofs.Conflict
open Coma.Spec

theorem pyEq_refl (a : APos) : a.pyEq a = true := by
  cases a <;> simp [APos.pyEq]

theorem pyEq_symm (a b : APos) : a.pyEq b = b.pyEq a := by
  cases a <;> cases b <;> simp [APos.pyEq, eq_comm]

theorem filter_not_any_eq_self {l X : List APos} (h : ∀ x ∈ l, ∀ y ∈ X, x.pyEq y = false) :
    l.filter (fun p => !X.any (fun o => p.pyEq o)) = l := by
  apply List.filter_eq_self.mpr
  intro x hx
  rw [Bool.not_eq_true', ← Bool.not_eq_true, List.any_eq_true]
  rintro ⟨y, hy, hxy⟩
  rw [h x hx y hy] at hxy; cases hxy

theorem filter_not_any_eq_nil {l X : List APos} (h : ∀ x ∈ l, x ∈ X) :
    l.filter (fun p => !X.any (fun o => p.pyEq o)) = [] := by
  apply List.filter_eq_nil_iff.mpr
  intro x hx
  rw [Bool.not_eq_true', ← Bool.not_eq_true, Classical.not_not, List.any_eq_true]
  exact ⟨x, h x hx, pyEq_refl x⟩

theorem sub_suffix {S : Seg} {A X : List APos} (hn : PyNodup S.items) (hX : S.items = A ++ X) :
    (S.sub X).items = A := by
  show S.items.filter _ = A
  rw [hX] at hn ⊢
  rw [List.filter_append, filter_not_any_eq_self (List.pairwise_append.mp hn).2.2,
    filter_not_any_eq_nil fun _ hx => hx, List.append_nil]

theorem sub_prefix {S : Seg} {X B : List APos} (hn : PyNodup S.items) (hX : S.items = X ++ B) :
    (S.sub X).items = B := by
  show S.items.filter _ = B
  rw [hX] at hn ⊢
  rw [List.filter_append, filter_not_any_eq_nil fun _ hx => hx,
    filter_not_any_eq_self fun x hx y hy => by rw [pyEq_symm]; exact (List.pairwise_append.mp hn).2.2 y hy x hx,
    List.nil_append]

theorem sub_nil (S : Seg) : S.sub [] = S :=
  congrArg (Seg.mk S.peak) (filter_not_any_eq_self fun _ _ _ hy => nomatch hy)

theorem lessOnBoth_irrefl (c : Pr) : c.lessOnBoth c = false := by
  simp [Pr.lessOnBoth]

theorem lessOnBoth_iff {a o : Pr} : a.lessOnBoth o = true ↔ a.q.pos < o.q.pos ∧ a.r.pos < o.r.pos := by
  simp [Pr.lessOnBoth]

theorem leqAny_self (c : Pr) : c.leqAny c = true := by
  simp [Pr.leqAny]

theorem leqAny_of_lt {a o : Pr} (h : a.r.pos < o.r.pos) : a.leqAny o = true := by
  simp [Pr.leqAny, h]

theorem leqAny_false {a o : Pr} (h : a.leqAny o = false) :
    o.q.pos ≤ a.q.pos ∧ o.r.pos ≤ a.r.pos ∧ a.q ≠ o.q ∧ a.r ≠ o.r := by
  simp only [Pr.leqAny, Bool.or_eq_false_iff, decide_eq_false_iff_not, Int.not_lt] at h
  exact ⟨h.1.1.1, h.1.1.2, h.1.2, h.2⟩

theorem mem_pairsOf {xs : List APos} {p : Pr} : p ∈ pairsOf xs ↔ APos.pair p ∈ xs := by
  unfold pairsOf
  rw [List.mem_filterMap]
  exact ⟨fun ⟨a, ha, h⟩ => by cases a <;> cases h; exact ha, fun h => ⟨_, h, rfl⟩⟩

theorem pairsOf_eq_nil {t : List APos} (h : ∀ x ∈ t, x.isPair = false) : pairsOf t = [] :=
  List.filterMap_eq_nil_iff.2 fun a ha => by
    cases a with
    | pair p => exact nomatch h _ ha
    | uref _ => rfl
    | uqry _ _ => rfl

theorem pairs_nil_of_items_nil {S : Seg} (h : S.items = []) : S.pairs = [] := by
  simp [Seg.pairs, h]

theorem startPos_eq_ok_iff {S : Seg} {sp : SP} :
    S.startPos = .ok sp ↔
      (S.items = [] ∧ sp = .null) ∨ (S.items ≠ [] ∧ ∃ p, S.pairs.head? = some p ∧ sp = .pr p) := by
  unfold Seg.startPos
  by_cases h0 : S.items = []
  · simp [h0, eq_comm]
  · rw [if_neg (by simpa using h0)]
    cases S.pairs <;> simp [h0, eq_comm]

theorem endPos_eq_ok_iff {S : Seg} {sp : SP} :
    S.endPos = .ok sp ↔
      (S.items = [] ∧ sp = .null) ∨ (S.items ≠ [] ∧ ∃ p, S.pairs.getLast? = some p ∧ sp = .pr p) := by
  unfold Seg.endPos
  by_cases h0 : S.items = []
  · simp [h0, eq_comm]
  · rw [if_neg (by simpa using h0)]
    cases S.pairs.getLast? <;> simp [h0, eq_comm]

theorem startPos_of_head? {S : Seg} {p : Pr} (h : S.pairs.head? = some p) : S.startPos = .ok (.pr p) := by
  have hne : S.items ≠ [] := fun h0 => by rw [pairs_nil_of_items_nil h0] at h; cases h
  exact startPos_eq_ok_iff.mpr (.inr ⟨hne, p, h, rfl⟩)

theorem endPos_of_getLast? {S : Seg} {p : Pr} (h : S.pairs.getLast? = some p) : S.endPos = .ok (.pr p) := by
  have hne : S.items ≠ [] := fun h0 => by rw [pairs_nil_of_items_nil h0] at h; cases h
  exact endPos_eq_ok_iff.mpr (.inr ⟨hne, p, h, rfl⟩)

theorem startPos_empty {S : Seg} (h : S.items = []) : S.startPos = .ok .null :=
  startPos_eq_ok_iff.mpr (.inl ⟨h, rfl⟩)

theorem endPos_empty {S : Seg} (h : S.items = []) : S.endPos = .ok .null :=
  endPos_eq_ok_iff.mpr (.inl ⟨h, rfl⟩)

theorem startPos_null {s : Seg} (h : s.startPos = .ok .null) : s.items = [] :=
  (startPos_eq_ok_iff.mp h).elim (·.1) fun ⟨_, _, _, h⟩ => nomatch h

theorem endPos_null {s : Seg} (h : s.endPos = .ok .null) : s.items = [] :=
  (endPos_eq_ok_iff.mp h).elim (·.1) fun ⟨_, _, _, h⟩ => nomatch h

theorem endPos_mem {s : Seg} {p : Pr} (h : s.endPos = .ok (.pr p)) : p ∈ s.pairs := by
  rcases endPos_eq_ok_iff.mp h with ⟨_, h⟩ | ⟨_, q, hq, h⟩
  · cases h
  · cases h; exact List.mem_of_getLast? hq

/-- `alignedPositions[0]` is what raises -/
theorem startPos_ok {S : Seg} (h : S.items = [] ∨ S.pairs ≠ []) : ∃ sp, S.startPos = .ok sp := by
  by_cases h0 : S.items = []
  · exact ⟨_, startPos_empty h0⟩
  · exact ⟨_, startPos_of_head? (List.head?_eq_some_head (h.resolve_left h0))⟩

theorem endPos_ok {S : Seg} (h : S.items = [] ∨ S.pairs ≠ []) : ∃ sp, S.endPos = .ok sp := by
  by_cases h0 : S.items = []
  · exact ⟨_, endPos_empty h0⟩
  · exact ⟨_, endPos_of_getLast? (List.getLast?_eq_some_getLast (h.resolve_left h0))⟩

theorem last_pair {S : Seg} {e : Pr} (h : S.items.getLast? = some (.pair e)) :
    S.items ≠ [] ∧ S.pairs.getLast? = some e ∧ S.endPos = .ok (.pr e) := by
  obtain ⟨ys, hys⟩ := List.getLast?_eq_some_iff.mp h
  have hne : S.items ≠ [] := by rw [hys]; simp
  have hp : S.pairs.getLast? = some e := by
    unfold Seg.pairs
    rw [hys, List.filterMap_append]
    simp [APos.pair?]
  exact ⟨hne, hp, endPos_of_getLast? hp⟩

theorem first_pair {S : Seg} {c : Pr} {tl : List APos} (h : S.items = .pair c :: tl) :
    S.items ≠ [] ∧ S.pairs.head? = some c ∧ S.startPos = .ok (.pr c) := by
  have hp : S.pairs.head? = some c := by
    unfold Seg.pairs
    rw [h]; rfl
  exact ⟨by rw [h]; simp, hp, startPos_of_head? hp⟩

theorem rightOK_first {R : Seg} (hR : RightOK R) (hne : R.items ≠ []) :
    ∃ c tl, R.items = .pair c :: tl :=
  let ⟨p, h⟩ := hR.first.resolve_left hne
  ⟨p, List.head?_eq_some_iff.mp h⟩

theorem pairs_leqAny_last {S : Seg} {e : Pr} (ha : PairsAscending S.items)
    (he : S.pairs.getLast? = some e) : ∀ p ∈ S.pairs, p.leqAny e = true := by
  intro p hp
  rcases pairwise_le_last ha he p hp with rfl | h
  · exact leqAny_self _
  · exact leqAny_of_lt h.1

theorem trimEnd_nil (e : Pr) : trimEnd e [] = .ok [] := rfl

theorem trimEnd_last_pair (e : Pr) {xs : List APos} {p : Pr} (h : xs.getLast? = some (.pair p)) :
    trimEnd e xs = .ok xs := by
  obtain ⟨ys, rfl⟩ := List.getLast?_eq_some_iff.mp h
  unfold trimEnd
  simp only [List.reverse_append, List.reverse_cons, List.reverse_nil, List.nil_append,
    List.cons_append]
  rw [List.dropWhile_cons_of_neg (by simp [APos.isPair])]
  simp

theorem trimEnd_spec (e : Pr) (xs : List APos) :
    ∃ c t, trimEnd e xs = .ok c ∧ xs = c ++ t ∧ ∀ x ∈ t, x.isPair = false := by
  refine ⟨_, (xs.reverse.takeWhile fun a => !a.isPair && !a.leqAny e).reverse, rfl, ?_, fun x hx => ?_⟩
  · rw [← List.reverse_append, List.takeWhile_append_dropWhile, List.reverse_reverse]
  · have := mem_takeWhile_imp (List.mem_reverse.mp hx)
    simp only [Bool.and_eq_true, Bool.not_eq_true'] at this
    exact this.1

theorem slice_spec (S : Seg) (start stop : SP) :
    ∃ Sc t, S.slice start stop = .ok Sc ∧
      (S.items.dropWhile fun p => p.lessOnBoth start.toPr).takeWhile (fun p => !p.isPair || p.leqAny stop.toPr) =
        Sc.items ++ t ∧ ∀ x ∈ t, x.isPair = false := by
  obtain ⟨c, t, h1, h2, h3⟩ := trimEnd_spec stop.toPr
    ((S.items.dropWhile fun p => p.lessOnBoth start.toPr).takeWhile fun p => !p.isPair || p.leqAny stop.toPr)
  exact ⟨⟨S.peak, c⟩, t, by unfold Seg.slice; dsimp only; rw [h1]; rfl, h2, h3⟩

theorem slice_empty {S : Seg} (h : S.items = []) (a b : SP) : S.slice a b = .ok ⟨S.peak, []⟩ := by
  unfold Seg.slice
  simp only [h, List.dropWhile_nil, List.takeWhile_nil, trimEnd_nil]
  rfl

theorem slice_left_of {L : Seg} {e : Pr} (he : L.items.getLast? = some (.pair e))
    (hall : ∀ p ∈ L.pairs, p.leqAny e = true) (start : SP) :
    L.slice start (.pr e) = .ok ⟨L.peak, L.items.dropWhile (fun p => p.lessOnBoth start.toPr)⟩ := by
  unfold Seg.slice
  have hsuf := List.dropWhile_suffix (l := L.items) (fun p => p.lessOnBoth start.toPr)
  generalize hA : L.items.dropWhile (fun p => p.lessOnBoth start.toPr) = A at hsuf
  have htw : A.takeWhile (fun p => !p.isPair || p.leqAny (SP.pr e).toPr) = A := by
    apply takeWhile_eq_self
    intro x hx
    cases x with
    | pair p =>
      have : p ∈ L.pairs := mem_pairsOf.mpr (hsuf.mem hx)
      simp [APos.isPair, APos.leqAny, SP.toPr, hall p this]
    | uref _ => simp [APos.isPair]
    | uqry _ _ => simp [APos.isPair]
  simp only [htw]
  have htr : trimEnd (SP.pr e).toPr A = .ok A := by
    by_cases hA0 : A = []
    · rw [hA0]; rfl
    · exact trimEnd_last_pair _ ((getLast?_of_suffix hsuf hA0).trans he)
  rw [htr]; rfl

end Coma.Proofs.Conflict
