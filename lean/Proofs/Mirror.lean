import Proofs.PairingOrder
import Proofs.Mirror_Labels
import Proofs.Equivariant_Align

/-
  C11: the candidate built for the mirror image of a query on the other strand, from the same seed peaks, is the mirror
  image of the candidate (`alignerAlign_mirror`).  The mirror image read on the other strand has the same coordinates
  with label k renumbered to n+1−k (`labels_mirror`), so this is `PMap.alignerAlign_map` for the renumbering
  `Mirror.relabelMap`; the engine commutes with it when there are no ties.
-/
namespace Coma.Proofs.Mirror
open Coma.Spec

variable (σ τ : Int → Int)

/-- `σ` renumbers the query labels, `τ` rewrites `source` -/
def relabelMap : PMap := ⟨id, fun l => ⟨σ l.site, l.pos⟩, τ, id, id⟩

/-- so every theorem of `PMap` applies to `relabelPr σ τ`, `relabelAPos σ τ`, `relabelSeg σ τ` as it stands -/
example : (relabelMap σ τ).ap = relabelAPos σ τ ∧ (relabelMap σ τ).seg = relabelSeg σ τ := ⟨rfl, rfl⟩

theorem relabelMap_equi (hσ : ∀ a b, σ a = σ b → a = b) : (relabelMap σ τ).Equi where
  r_pos _ _ := rfl
  q_pos _ := rfl
  r_inj _ _ h := h
  q_inj a b h := by
    cases a; cases b
    simp only [relabelMap, Lbl.mk.injEq] at h ⊢
    exact ⟨hσ _ _ h.1, h.2⟩
  st_inj _ _ h := h
  pk_lt _ _ := Iff.rfl

@[simp] theorem abs_relabel (a : APos) : (relabelAPos σ τ a).abs = a.abs := by cases a <;> rfl

@[simp] theorem pair?_relabel (a : APos) : (relabelAPos σ τ a).pair? = a.pair?.map (relabelPr σ τ) := by
  cases a <;> rfl

@[simp] theorem segPeak_relabel (s : Seg) : (relabelSeg σ τ s).peak = s.peak := rfl
@[simp] theorem segItems_relabel (s : Seg) : (relabelSeg σ τ s).items = s.items.map (relabelAPos σ τ) := rfl

def relabelEnds (e : Ends) : Ends := ⟨relabelPr σ τ e.s, relabelPr σ τ e.e⟩

@[simp] theorem endsKey_relabel (e : Ends) : (relabelEnds σ τ e).key = e.key := rfl

@[simp] theorem joinScore_relabel (m : Rat) (v : Int) (a b : Ends) :
    joinScore m v (relabelEnds σ τ a) (relabelEnds σ τ b) = joinScore m v a b := rfl

theorem dedup_relabel (σ τ : Int → Int) (hσ : ∀ a b, σ a = σ b → a = b) (md start it : Int) (refs qs : List Lbl)
    (hq : Ascending (qs.map (·.pos))) (hnt : NoTies md start refs qs)
    (hrs : (refs.map (·.site)).Nodup) :
    dedup ((candidates md start it refs qs).map (relabelPr σ τ)) =
      (dedup (candidates md start it refs qs)).map (relabelPr σ τ) := by
  unfold dedup
  generalize hc : candidates md start it refs qs = cands
  rw [dedupByKey_map_of_le_iff (relabelPr σ τ) (fun p => p.q.site) (fun p => σ p.q.site) (fun _ _ => Iff.rfl)
      (fun _ => rfl),
    dedupByKey_map_of_le_iff (relabelPr σ τ) (fun p => p.r.site) (fun p => p.r.site) (fun _ _ => Iff.rfl)
      (fun _ => rfl)]
  congr 1
  apply dedupByKey_eq_of_mem
  · intro x
    exact mem_dedupByKey_congr _ _ cands (fun a _ b _ => ⟨fun h => congrArg σ h, fun h => hσ _ _ h⟩) x
  · intro c hcA c' hcA' hk hne
    have hcc := dedupByKey_mem hcA
    have hcc' := dedupByKey_mem hcA'
    rw [← hc] at hcc hcc'
    obtain ⟨r, h1, q, h2, h4, rfl⟩ := (PO.mem_candidates hq).1 hcc
    obtain ⟨r', h1', q', h2', h4', rfl⟩ := (PO.mem_candidates hq).1 hcc'
    obtain rfl : r = r' := inj_of_nodup_map Lbl.site hrs _ h1 _ h1' hk
    have hn := hnt r h1 q h2 q' h2' (fun h => hne (by rw [h])) h4 h4'
    exact fun h => hn (Int.ofNat_inj.1 h)

end Coma.Proofs.Mirror

namespace Coma.Proofs
open Coma.Spec

theorem dedup_relabel (σ τ : Int → Int) (hσ : ∀ a b, σ a = σ b → a = b) (md start it : Int) (refs qs : List Lbl)
    (hq : Ascending (qs.map (·.pos))) (hnt : NoTies md start refs qs)
    (hrs : (refs.map (·.site)).Nodup) (hqs : (qs.map (·.site)).Nodup) :
    dedup ((candidates md start it refs qs).map (relabelPr σ τ)) =
      (dedup (candidates md start it refs qs)).map (relabelPr σ τ) :=
  have _ := hqs
  Mirror.dedup_relabel σ τ hσ md start it refs qs hq hnt hrs

namespace Mirror

/-- `hnt`: the first de-duplication pass sorts by query label number, so ties would be broken differently -/
theorem engineOn_relabel (σ : Int → Int) (hσ : ∀ a b, σ a = σ b → a = b) (md start it : Int) (refs qs : List Lbl)
    (hq : Ascending (qs.map (·.pos))) (hnt : NoTies md start refs qs) (hrs : (refs.map (·.site)).Nodup) :
    engineOn md start it refs (qs.map fun l => ⟨σ l.site, l.pos⟩) =
      (engineOn md start it refs qs).map (relabelAPos σ id) := by
  have h := PMap.engineOn_map (Mirror.relabelMap σ id) start start rfl (fun _ _ => rfl) (fun _ _ => Iff.rfl)
    (fun a b => ⟨fun h => hσ _ _ h, fun h => congrArg σ h⟩)
    (fun a b => by
      show (relabelAPos σ id a).abs ≤ (relabelAPos σ id b).abs ↔ _
      rw [Mirror.abs_relabel, Mirror.abs_relabel])
    md it refs qs (Mirror.dedup_relabel σ id hσ md start it refs qs hq hnt hrs)
  rwa [show refs.map (Mirror.relabelMap σ id).r = refs from List.map_id refs] at h

end Mirror

theorem engineAlign_mirror (md : Int) (ref qry : OMap) (start stop : Int) (rev : Bool) (it : Int)
    (ht : Trimmed qry) (hnt : NoTies md start (refWindow md ref start stop) (qry.labels rev)) :
    engineAlign md ref qry.mirror start stop (!rev) it =
      (engineAlign md ref qry start stop rev it).map (relabelAPos (fun k => (qry.positions.length : Int) + 1 - k) id) := by
  rw [engineAlign_on, engineAlign_on, labels_mirror qry rev ht.1]
  exact Mirror.engineOn_relabel _ (fun a b h => by omega) md start it _ _ (labels_pos_asc qry rev ht.2.2.2) hnt
    (refWindow_site_nodup md ref start stop)

theorem alignerAlign_mirror (P : Params) (C : ChainCfg) (ref qry : OMap) (peaks : List Int) (rev : Bool) (it : Int)
    (ht : Trimmed qry)
    (hnt : ∀ peak ∈ peaks, NoTies P.md peak (refWindow P.md ref peak (peak + qry.length)) (qry.labels rev)) :
    alignerAlign P C ref qry.mirror peaks (!rev) it =
      (alignerAlign P C ref qry peaks rev it).map (mirrorRow qry.positions.length) := by
  have hm := Mirror.relabelMap_equi (fun k => (qry.positions.length : Int) + 1 - k) id fun a b h => by omega
  refine (id_map _).symm.trans <| PMap.alignerAlign_map hm P C ref ref qry qry.mirror rev (!rev) id (fun _ => rfl)
    peaks peaks (List.map_id peaks) it
    (fun p hp it => engineAlign_mirror P.md ref qry p (p + qry.length) rev it ht (hnt p hp))
    (mirrorRow qry.positions.length) id fun res => ?_
  rw [PMap.create_map_of_r_pos hm fun _ => rfl]
  cases rev <;> rfl

/-- The null pair ⟨0,0⟩ is compared by label equality, so a renumbering that moves label number 0 at coordinate 0 is
    observable.  Here σ k = k+1 moves the query label `⟨0,0⟩`, which `endOverlapsWithStartOf` compares with `nullPr` when
    the right segment is empty: the renumbered run reports no overlap and keeps all four items of the left segment, the
    original run takes the `dropLeft` branch and keeps one. -/
theorem Mirror.not_resolveConflicts_relabel :
    ¬ ∀ (σ τ : Int → Int) (_ : ∀ a b, σ a = σ b → a = b) (P : Params) (C : ChainCfg) (segs : List Seg),
      resolveConflicts P C (segs.map (relabelSeg σ τ)) =
        (resolveConflicts P C segs).map (List.map (relabelSeg σ τ)) := by
  intro h
  have := h (fun k => k + 1) id (by intro a b h; omega)
    { sp := 10, dp := 1, su := -6, md := 3, minScore := 1, bst := 0 } {}
    [⟨0, [.pair ⟨⟨1, -10⟩, ⟨7, -10⟩, 0, 0⟩, .uref ⟨2, 1⟩, .uref ⟨3, 2⟩, .pair ⟨⟨4, 5⟩, ⟨0, 0⟩, 0, 0⟩]⟩, ⟨0, []⟩]
  have := congrArg firstLen this
  revert this
  decide

end Coma.Proofs
