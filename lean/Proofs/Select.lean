import Props.Defs
import Proofs.SortLemmas
import Proofs.Execute
/-
  C05: the best candidate per query.  `filterBestPerQuery` is used through two facts only: the ids of its result are
  strictly ascending (`fbq_strict`), and the row kept for an id is the first of the stable descending sort of the
  rows with that id (`fbq_class`); two lists with these properties are equal (`ext_of_strict`).
-/
namespace Coma.Proofs
open Coma.Spec

namespace Select

abbrev qid : Row → Int := fun r => r.queryId
abbrev nconf : Row → Int := fun r => - r.confidence
/-- the rows of one query -/
abbrev F (id : Int) (l : List Row) : List Row := l.filter (fun r => decide (r.queryId = id))

theorem fbq_eq (rows : List Row) :
    filterBestPerQuery rows = (groupAdj qid (isort qid (isort nconf rows))).filterMap List.head? := rfl

theorem fbq_strict (rows : List Row) :
    StrictAscending ((filterBestPerQuery rows).map (·.queryId)) := by
  rw [fbq_eq, StrictAscending, List.pairwise_map]
  refine List.Pairwise.filterMap _ ?_ (groupAdj_sorted qid _ (isort_sorted qid _))
  intro g g' hgg b hb b' hb'
  exact hgg b (List.mem_of_mem_head? hb) b' (List.mem_of_mem_head? hb')

theorem fbq_class (id : Int) (l : List Row) :
    F id (filterBestPerQuery l) = (isort nconf (F id l)).head?.toList := by
  rw [fbq_eq]
  show List.filter (fun y => decide (qid y = id)) _ = _
  rw [heads_filter qid id _ (isort_sorted qid _), filter_isort qid id,
    filter_isort_comm nconf (fun r => decide (qid r = id)) l]

theorem ext_of_strict {L L' : List Row} (h : StrictAscending (L.map (·.queryId)))
    (h' : StrictAscending (L'.map (·.queryId))) (hc : ∀ id, F id L = F id L') : L = L' :=
  eq_of_sorted_of_classes qid L L' h h' hc

theorem fbq_mem (rows : List Row) : ∀ r ∈ filterBestPerQuery rows, r ∈ rows := by
  intro r hr
  have : r ∈ F r.queryId (filterBestPerQuery rows) := List.mem_filter.2 ⟨hr, by simp⟩
  rw [fbq_class, Option.mem_toList] at this
  exact (List.mem_filter.1 (mem_isort.1 (List.mem_of_mem_head? this))).1

theorem fbq_best (rows : List Row) :
    ∀ x ∈ rows, ∃ r ∈ filterBestPerQuery rows, r.queryId = x.queryId ∧ x.confidence ≤ r.confidence := by
  intro x hx
  have hxs : x ∈ isort nconf (F x.queryId rows) :=
    mem_isort.2 (List.mem_filter.2 ⟨hx, by simp⟩)
  have hs := List.pairwise_map.1 (isort_sorted nconf (F x.queryId rows))
  cases hl : isort nconf (F x.queryId rows) with
  | nil => rw [hl] at hxs; cases hxs
  | cons m tl =>
    have hm : m ∈ F x.queryId (filterBestPerQuery rows) := by
      rw [fbq_class, hl]
      simp
    rw [hl] at hxs hs
    refine ⟨m, (List.mem_filter.1 hm).1, by simpa using (List.mem_filter.1 hm).2, ?_⟩
    rcases List.mem_cons.1 hxs with rfl | hxt
    · exact Int.le_refl _
    · have := (List.pairwise_cons.1 hs).1 x hxt
      simp only [nconf] at this
      omega

theorem fbq_fixed (R : List Row) (h : StrictAscending (R.map (·.queryId))) :
    filterBestPerQuery R = R := by
  refine ext_of_strict (fbq_strict R) h fun id => ?_
  rw [fbq_class]
  have hlen : (F id R).length ≤ 1 := class_length_le_one qid id R (h.imp Int.ne_of_lt)
  rcases eq_nil_or_singleton hlen with e | ⟨a, e⟩
  · rw [e]; rfl
  · rw [e]; rfl

theorem fbq_ext (l l' : List Row) (h : ∀ id, F id l = F id l') :
    filterBestPerQuery l = filterBestPerQuery l' :=
  ext_of_strict (fbq_strict l) (fbq_strict l') fun id => by rw [fbq_class, fbq_class, h id]

theorem fbq_filter (id : Int) (l : List Row) :
    F id (filterBestPerQuery l) = filterBestPerQuery (F id l) := by
  have h := fbq_class id (F id l)
  have e1 : F id (F id l) = F id l := List.filter_eq_self.2 (fun _ ha => (List.mem_filter.1 ha).2)
  have e2 : F id (filterBestPerQuery (F id l)) = filterBestPerQuery (F id l) :=
    List.filter_eq_self.2 (fun a ha => (List.mem_filter.1 (fbq_mem _ a ha)).2)
  rw [e1, e2, ← fbq_class] at h
  exact h.symm

theorem fbq_ids (L : List Row) (q : Int) :
    q ∈ (filterBestPerQuery L).map (·.queryId) ↔ q ∈ L.map (·.queryId) := by
  simp only [List.mem_map]
  constructor
  · rintro ⟨r, hr, rfl⟩
    exact ⟨r, fbq_mem L r hr, rfl⟩
  · rintro ⟨x, hx, rfl⟩
    obtain ⟨r, hr, hq, _⟩ := fbq_best L x hx
    exact ⟨r, hr, hq⟩

end Select
open Select

theorem bestRow_spec (rows : List Row) :
    (bestRow rows = none ↔ rows = []) ∧
    ∀ r, bestRow rows = some r →
      ∃ l1 l2, rows = l1 ++ r :: l2 ∧ (∀ x ∈ l1, x.confidence < r.confidence) ∧ (∀ x ∈ l2, x.confidence ≤ r.confidence) := by
  have hdef : bestRow rows = (isort nconf rows).head? := rfl
  constructor
  · rw [hdef, List.head?_eq_none_iff, isort_eq_nil]
  · intro r hr
    rw [hdef] at hr
    cases hs : isort nconf rows with
    | nil => rw [hs] at hr; cases hr
    | cons m rest =>
      rw [hs] at hr
      simp only [List.head?_cons, Option.some.injEq] at hr
      subst hr
      obtain ⟨l1, l2, h0, h1, h2⟩ := isort_head_split nconf rows m rest hs
      refine ⟨l1, l2, h0, ?_, ?_⟩
      · intro x hx; have := h1 x hx; simp only [nconf] at this; omega
      · intro x hx; have := h2 x hx; simp only [nconf] at this; omega

/-- `mode ≠ .joined`: the 'separate' rows of mode 'joined' are not filtered -/
theorem finish_strict (mode : Mode) (f1 f2 j s : List Row) :
    StrictAscending ((finish mode (filterBestPerQuery f1) (filterBestPerQuery f2) j s).main.map (·.queryId)) ∧
    (mode ≠ .joined → ∀ f ∈ (finish mode (filterBestPerQuery f1) (filterBestPerQuery f2) j s).extra,
      StrictAscending (f.2.map (·.queryId))) := by
  cases mode <;> simp [finish, fbq_strict]

theorem execute_files_unique (cfg : Cfg) (mode : Mode) (refs : List OMap) (t : SeedTable) (qs : List OMap) (it : Int)
    (out : Output) (h : execute cfg mode refs t qs it = .ok out) :
    StrictAscending (out.main.map (·.queryId)) ∧
    ((mode = .separate ∨ mode = .all) → ∀ f ∈ out.extra, StrictAscending (f.2.map (·.queryId))) := by
  obtain ⟨first, _, h⟩ := execute_ok_iff.mp h
  split at h
  · next hm =>
    subst h hm
    exact ⟨fbq_strict _, fun hm => by rcases hm with h | h <;> cases h⟩
  · obtain ⟨second, _, h⟩ := h
    by_cases hs : mode = .separate
    · subst hs
      cases h
      refine ⟨fbq_strict _, fun _ f hf => ?_⟩
      cases List.mem_singleton.mp hf
      exact fbq_strict _
    · obtain ⟨j, s, _, rfl⟩ := (execRest_ok_iff hs).mp h
      obtain ⟨hmain, hextra⟩ := finish_strict mode (if mode = .best then first ++ second else first) second j s
      exact ⟨hmain, fun hm => hextra (by rcases hm with rfl | rfl <;> decide)⟩

end Coma.Proofs
