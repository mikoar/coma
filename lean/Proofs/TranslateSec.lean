import Proofs.Peaks
import Proofs.Translate
import Proofs.SeedTable
import Proofs.Execute

/- The secondary seeding stage moves with the reference: `refine` counts bins from the window start `peak − margin`, so
   moving the reference and the primary peak by `d` leaves the two bit vectors, their correlation and the peaks found in it
   unchanged, and every reported position, hence the seed `deriveSeed` makes of them, moves by `d` (`deriveSeed_shift_refs`).
   ONE EXCEPTION: `vectorisePositions` reads a window end of exactly 0 as "no end given" (`end or positions[-1]`,
   vectorise.py) and uses the last label instead.  So the three unconditional statements are FALSE (`…_shift_false`) and
   hold as soon as the window end is non-zero on both sides (`…_shift_of`). -/
namespace Coma.Proofs

theorem vecWhile_shift (res stop pos d : Int) : ∀ (f : Nat) (ws : Int) (z : Nat),
    vecWhile res (stop + d) (pos + d) f (ws + d) z
      = ((vecWhile res stop pos f ws z).1, (vecWhile res stop pos f ws z).2.1 + d, (vecWhile res stop pos f ws z).2.2)
  | 0, _, _ => rfl
  | f + 1, ws, z => by
    -- `d` cancels in both tests of the loop
    have e : ws + d + res = ws + res + d := by omega
    simp only [vecWhile, e, ge_iff_le, gt_iff_lt, Int.add_le_add_iff_right, Int.add_lt_add_iff_right]
    by_cases h1 : ws + res ≤ pos
    · by_cases h2 : stop < ws + res
      · simp only [h1, h2, if_true]
      · simp only [h1, h2, if_true, if_false]
        exact vecWhile_shift res stop pos d f (ws + res) (z + 1)
    · simp only [h1, if_false]

theorem vecGo_shift (res stop d : Int) : ∀ (ps : List Int) (ws : Int),
    vecGo res (stop + d) (ws + d) (ps.map (· + d)) = vecGo res stop ws ps
  | [], _ => rfl
  | p :: ps, ws => by
    have e : p + d - (ws + d) = p - ws := by omega
    simp only [List.map_cons, vecGo, e, Int.add_lt_add_iff_right, vecWhile_shift]
    by_cases hp : p < ws
    · simp only [hp, if_true]
      exact vecGo_shift res stop d ps ws
    · simp only [hp, if_false]
      have e2 : ∀ x : Int, x + d + res = x + res + d := fun x => by omega
      rw [e2, vecGo_shift res stop d ps]

theorem vectorise_shift (positions : List Int) (res start stop d : Int) (h0 : stop ≠ 0) (hd : stop + d ≠ 0) :
    vectorise (positions.map (· + d)) res (start + d) (some (stop + d)) = vectorise positions res start (some stop) := by
  unfold vectorise
  by_cases hr : res < 1
  · simp only [hr, if_true]
  · simp only [hr, if_false, ne_eq, h0, hd, not_false_eq_true, if_true]
    rw [vecGo_shift]

/-- window end 0 on the untranslated side: "no end given" and no label ⇒ IndexError; translated by 1 the end is 1 and
    the (empty) vector is returned -/
theorem sequenceOf_shift_false :
    ¬ ∀ (res blurR : Int) (positions : List Int) (start : Int) (stop : Int) (d : Int),
      sequenceOf res blurR (positions.map (· + d)) (start + d) (some (stop + d)) = sequenceOf res blurR positions start (some stop) := by
  intro h
  have := congrArg Except.isOk (h 1 0 [] 0 0 1)
  revert this
  decide

/-- number of samples of a correlation (a decidable observation) -/
def secLen {α} (e : Except Err (List α)) : Nat :=
  match e with
  | .ok l => l.length
  | .error _ => 0

/-- all coordinates non-negative: resolution 1, no blur, no margin, a query of recorded length 0 with labels 0,1 and
    the primary peak at 0, so the window is `[0, 0]` and its end is read as "up to the last label" (7): 7 correlation
    samples, one secondary peak at 4.  One bp further down the window is `[1, 1]`: 2 samples, no peak. -/
theorem refineCorrelation_shift_false :
    ¬ ∀ (c : SecCfg) (ref q : OMap) (rev : Bool) (peak d : Int),
      refineCorrelation c (shiftRef d ref) q rev (peak + d) = refineCorrelation c ref q rev peak := by
  intro h
  have := congrArg secLen
    (h { res := 1, blur := 0, margin := 0, thr := 1, keep := 10 } ⟨1, 10, [1, 4, 5, 7], 0⟩ ⟨2, 0, [0, 1], 0⟩ false 0 1)
  revert this
  decide

theorem refine_shift_false :
    ¬ ∀ (c : SecCfg) (ref q : OMap) (rev : Bool) (peak d : Int),
      refine c (shiftRef d ref) q rev (peak + d) = (refine c ref q rev peak).map (List.map fun p => (p.1 + d, p.2)) := by
  intro h
  have := congrArg secLen
    (h { res := 1, blur := 0, margin := 0, thr := 1, keep := 10 } ⟨1, 10, [1, 4, 5, 7], 0⟩ ⟨2, 0, [0, 1], 0⟩ false 0 1)
  revert this
  decide +kernel

theorem sequenceOf_shift_of (res blurR : Int) (positions : List Int) (start : Int) (stop : Int) (d : Int)
    (h0 : stop ≠ 0) (hd : stop + d ≠ 0) :
    sequenceOf res blurR (positions.map (· + d)) (start + d) (some (stop + d)) = sequenceOf res blurR positions start (some stop) := by
  unfold sequenceOf
  rw [vectorise_shift positions res start stop d h0 hd]

theorem refineCorrelation_shift_of (c : SecCfg) (ref q : OMap) (rev : Bool) (peak d : Int)
    (h0 : peak + q.length + c.margin ≠ 0) (hd : peak + d + q.length + c.margin ≠ 0) :
    refineCorrelation c (shiftRef d ref) q rev (peak + d) = refineCorrelation c ref q rev peak := by
  unfold refineCorrelation
  have e1 : peak + d - c.margin = peak - c.margin + d := by omega
  have e2 : peak + d + q.length + c.margin = peak + q.length + c.margin + d := by omega
  have e3 : (shiftRef d ref).positions = ref.positions.map (· + d) := rfl
  rw [e1, e2, e3, sequenceOf_shift_of _ _ _ _ _ _ h0 (by omega)]

theorem toBp_add (b res start d : Int) : toBp b res (start + d) = toBp b res start + d := by
  simp only [toBp]; omega

theorem createPeaks_shift (count res start d : Int) (pk : List (Int × Int)) :
    createPeaks count res (start + d) pk = (createPeaks count res start pk).map (fun p => (p.1 + d, p.2)) := by
  unfold createPeaks
  rw [List.map_map]
  exact List.map_congr_left fun p _ => by simp only [Function.comp, toBp_add]

theorem peaksOf_shift (c : SecCfg) (peak d : Int) (corr : List Nat) :
    Peaks.peaksOf c (peak + d) corr = (Peaks.peaksOf c peak corr).map (fun p => (p.1 + d, p.2)) := by
  unfold Peaks.peaksOf
  rw [show peak + d - c.margin = peak - c.margin + d by omega, createPeaks_shift]

theorem refine_shift_of (c : SecCfg) (ref q : OMap) (rev : Bool) (peak d : Int)
    (h0 : peak + q.length + c.margin ≠ 0) (hd : peak + d + q.length + c.margin ≠ 0) :
    refine c (shiftRef d ref) q rev (peak + d) = (refine c ref q rev peak).map (List.map fun p => (p.1 + d, p.2)) := by
  rw [Peaks.refine_eq_map, Peaks.refine_eq_map, refineCorrelation_shift_of c ref q rev peak d h0 hd, Exc.map_map]
  exact Exc.map_congr _ _ _ fun corr _ => peaksOf_shift c peak d corr

theorem isort_add (d : Int) (l : List Int) : isort id (l.map (· + d)) = (isort id l).map (· + d) :=
  isort_map_of_le_iff (· + d) id id (fun x y => by show x + d ≤ y + d ↔ x ≤ y; omega) l

theorem strictlyAscending_add (d : Int) (l : List Int) : strictlyAscending (l.map (· + d)) = strictlyAscending l := by
  rw [Bool.eq_iff_iff, strictlyAscending_iff, strictlyAscending_iff, List.pairwise_map]
  exact ⟨fun h => h.imp fun h => by omega, fun h => h.imp fun h => by omega⟩

theorem map_add_inj (d : Int) (a b : List Int) : a.map (· + d) = b.map (· + d) ↔ a = b :=
  List.map_inj_right fun x y (h : x + d = y + d) => by omega

theorem contains_add (d x : Int) (l : List Int) : (l.map (· + d)).contains (x + d) = l.contains x := by
  induction l with
  | nil => rfl
  | cons a as ih => simp only [List.map_cons, List.contains_cons, ih, Bool.beq_eq_decide_eq, Int.add_left_inj]

theorem tieConsistent_shift (c : SecCfg) (start d : Int) (all : List (Nat × Int)) (pk : List (Int × Int)) (cap : List Int) :
    tieConsistent c (start + d) all (pk.map fun p => (p.1 + d, p.2)) (cap.map (· + d)) = tieConsistent c start all pk cap := by
  -- every part of the test commutes with adding `d`; the heights are not touched
  unfold tieConsistent
  simp only [List.map_map, List.length_map, isort_add, strictlyAscending_add, List.filter_map, List.all_map, List.any_map,
    Function.comp_def, contains_add, toBp_add, Int.add_left_inj]

theorem map_fst_add (d : Int) (pk : List (Int × Int)) :
    (pk.map fun p => (p.1 + d, p.2)).map (·.1) = (pk.map (·.1)).map (· + d) := by
  rw [List.map_map, List.map_map]; rfl

def shiftPSeed (d : Int) (s : PSeed) : PSeed := { s with primary := s.primary + d, captured := s.captured.map (· + d) }
def shiftSeed (d : Int) (s : Seed) : Seed := { s with peaks := s.peaks.map (· + d) }

theorem capStatus_shift (c : SecCfg) (s : PSeed) (d : Int) (corr : List Nat) :
    capStatus c (shiftPSeed d s) corr = capStatus c s corr := by
  have e1 : s.primary + d - c.margin = s.primary - c.margin + d := by omega
  unfold capStatus shiftPSeed
  simp only [peaksOf_shift, e1, map_fst_add, tieConsistent_shift, isort_add, map_add_inj]

theorem seedOf_shift (c : SecCfg) (s : PSeed) (d : Int) (corr : List Nat) :
    seedOf c (shiftPSeed d s) corr = (shiftSeed d (seedOf c s corr).1, (seedOf c s corr).2) := by
  by_cases h : ((Peaks.passed c corr).length : Int) ≤ c.keep
  · rw [seedOf_few h, seedOf_few h]
    exact congrArg (fun l => (Seed.mk s.refId s.rev l, SecStatus.derived))
      ((congrArg _ (peaksOf_shift c s.primary d corr)).trans (map_fst_add d _))
  · rw [seedOf_many h, seedOf_many h, capStatus_shift]; dsimp only [shiftSeed, shiftPSeed]

theorem deriveSeed_shift_refs (c : SecCfg) (refs : List OMap) (q : OMap) (s : PSeed) (d : Int)
    (h0 : s.primary + q.length + c.margin ≠ 0) (hd : s.primary + d + q.length + c.margin ≠ 0) :
    deriveSeed c (refs.map (shiftRef d)) q (shiftPSeed d s) = (deriveSeed c refs q s).map (fun p => (shiftSeed d p.1, p.2)) := by
  rw [deriveSeed_eq, deriveSeed_eq, List.find?_map]
  have : ((fun r : OMap => decide (r.id = (shiftPSeed d s).refId)) ∘ shiftRef d) = fun r => decide (r.id = s.refId) := rfl
  rw [this]
  cases refs.find? (fun r => r.id = s.refId) with
  | none => rfl
  | some r =>
    dsimp only [Option.map]
    rw [Exc.map_map]
    exact (congrArg _ (refineCorrelation_shift_of c r q s.rev s.primary d h0 hd)).trans
      (Exc.map_congr _ _ _ fun corr _ => seedOf_shift c s d corr)

end Coma.Proofs
