/-
  Props/C02.lean — PROPERTY THEOREMS for C02 (record fields agree with the listed pairs and with
  the input maps).  Statements, each proved in a few lines from the lemmas of Proofs/Fields.lean or by
  reference to the theorem there.

  Models: `Row.create` (src/alignment/alignment_results.py:68-86), `OMap.labels`
  (src/correlation/optical_map.py:45-56), `unalignedFragments` (alignment_results.py:179-228),
  `renderRows` / `XRow.fields` (src/parsers/xmap_reader.py:63-80).
  Quantifier: all segment lists, maps, strands, fragments; every record of every file.
-/
import Props.Defs
import Proofs.Fields
namespace Coma.Props
open Coma.Spec

/-- label numbers and coordinates: the k-th label from the left is number k+1+shift on either
    strand; '-' strand coordinates are measured from length-1 (for a trimmed query: from its last
    label), '+' strand coordinates from 0 (its first label) -/
theorem C02_label_coords (m : OMap) (rev : Bool) :
    (m.labels rev).length = m.positions.length ∧
    ∀ l, l ∈ m.labels rev ↔ ∃ k : Nat, ∃ p, m.positions[k]? = some p ∧ l.site = (k : Int) + 1 + m.shift ∧
        l.pos = (if rev then m.length - 1 - p else p) :=
  Coma.Proofs.labels_spec m rev

/-- header fields of a record whose pairs are listed in ascending reference order (C01): Ref
    start/end = coordinates of the first/last listed reference label; Qry start/end = coordinates
    of the two outermost query labels, exchanged for '-'; ids, lengths, strand copied -/
theorem C02_header (P : Params) (segs : List Seg) (qid rid ql rl : Int) (rev : Bool) (first last : Pr)
    (hf : (segs.flatMap Seg.pairs).head? = some first) (hl : (segs.flatMap Seg.pairs).getLast? = some last)
    (ha : Ascending ((segs.flatMap Seg.pairs).map (fun p => p.r.pos))) :
    let row := Row.create P segs qid rid ql rl rev
    row.rStart = first.r.pos ∧ row.rEnd = last.r.pos ∧
    row.qStart = (if rev then last else first).q.pos ∧ row.qEnd = (if rev then first else last).q.pos ∧
    row.queryId = qid ∧ row.referenceId = rid ∧ row.queryLength = ql ∧ row.referenceLength = rl ∧ row.rev = rev ∧
    row.alignedRest = false ∧ row.segments = segs ∧
    row.confidence = sumInts (segs.map (fun s => sumScores P s.items)) :=
  Coma.Proofs.row_create_fields P segs qid rid ql rl rev first last hf hl ha

/-- a candidate carries the ids and lengths of the maps it was built from -/
theorem C02_ids_lengths (P : Params) (C : ChainCfg) (ref qry : OMap) (peaks : List Int) (rev : Bool) (it : Int)
    (row : Row) (h : alignerAlign P C ref qry peaks rev it = .ok row) :
    row.queryId = qry.id ∧ row.referenceId = ref.id ∧ row.queryLength = qry.length ∧
    row.referenceLength = ref.length ∧ row.rev = rev ∧ row.alignedRest = false ∧
    row.confidence = sumInts (row.segments.map (fun s => sumScores P s.items)) :=
  Coma.Proofs.alignerAlign_fields P C ref qry peaks rev it row h

/-- second-pass fragments keep the molecule id and full length, and their label numbers and
    coordinates are those of the whole query -/
theorem C02_second_pass (row : Row) (queries : List OMap) (query : OMap) (frags : List OMap)
    (hq : queries.find? (fun m => m.id = row.queryId) = some query)
    (hlen : query.length = row.queryLength) (hshift : query.shift = 0)
    (h : unalignedFragments row queries = .ok frags) :
    ∀ f ∈ frags, f.id = row.queryId ∧ f.length = row.queryLength ∧
      ∀ rev, ∀ l ∈ f.labels rev, l ∈ query.labels rev :=
  Coma.Proofs.fragment_labels_subset row queries query frags hq hlen hshift h

/-- XmapEntryID counts 1,2,3,… and every written field is the row's field -/
theorem C02_entry_ids (cfg : Cfg) (rows : List Row) (lines : List String) (h : renderRows cfg rows = .ok lines) :
    lines.length = rows.length ∧
    ∀ k, k < rows.length → ∃ x : XRow, lines[k]? = some x.line ∧ x.entryId = k + 1 ∧
      ∃ r, rows[k]? = some r ∧ x.qid = r.queryId ∧ x.rid = r.referenceId ∧ x.qStart = r.qStart ∧ x.qEnd = r.qEnd ∧
        x.rStart = r.rStart ∧ x.rEnd = r.rEnd ∧ x.rev = r.rev ∧ x.qLen = r.queryLength ∧ x.rLen = r.referenceLength ∧
        x.alignedRest = r.alignedRest ∧ x.pairs = r.pairs.map (fun p => (p.r.site, p.q.site)) ∧
        x.conf100 = (r.confidence * 100) / (cfg.den : Int) := by
  obtain ⟨hlen, hk⟩ := Coma.Proofs.Fields.renderRowsFrom_spec cfg rows 1 lines h
  refine ⟨hlen, ?_⟩
  intro k hklt
  obtain ⟨x, h1, h2, r, h3, h4⟩ := hk k hklt
  exact ⟨x, h1, by omega, r, h3, h4⟩

/-- column k of the written line is field k, with `{:.1f}` / `{:.2f}` formatting; Orientation is
    '+' or '-' -/
theorem C02_columns (x : XRow) :
    x.fields.length = 15 ∧ x.fields[0]? = some (renderNat x.entryId) ∧ x.fields[1]? = some (renderInt x.qid) ∧
    x.fields[2]? = some (renderInt x.rid) ∧ x.fields[3]? = some (renderFixed 1 (x.qStart * 10)) ∧
    x.fields[4]? = some (renderFixed 1 (x.qEnd * 10)) ∧ x.fields[5]? = some (renderFixed 1 (x.rStart * 10)) ∧
    x.fields[6]? = some (renderFixed 1 (x.rEnd * 10)) ∧ x.fields[7]? = some (if x.rev then "-" else "+") ∧
    x.fields[8]? = some (renderFixed 2 x.conf100) ∧ x.fields[9]? = some x.hitEnum ∧
    x.fields[10]? = some (renderFixed 1 (x.qLen * 10)) ∧ x.fields[11]? = some (renderFixed 1 (x.rLen * 10)) ∧
    x.fields[12]? = some (if x.alignedRest then "True" else "False") ∧ x.fields[14]? = some (renderPairs x.pairs) :=
  ⟨rfl, rfl, rfl, rfl, rfl, rfl, rfl, rfl, rfl, rfl, rfl, rfl, rfl, rfl, rfl⟩

/-- non-vacuity: a reverse-strand two-pair segment -/
example : (Row.create ⟨1000, 1, -250, 1500, 1000, 1200⟩
    [⟨500, [.pair ⟨⟨4, 9000⟩, ⟨7, 8500⟩, 0, 0⟩, .pair ⟨⟨5, 12000⟩, ⟨6, 11500⟩, 0, 0⟩]⟩] 3 1 20001 99999 true).qStart = 11500 := by
  decide +kernel

/-- start/end order: reference start ≤ end; query start ≤ end on '+', start ≥ end on '-' — for every record
    whose pairs are listed with ascending reference coordinates and with query coordinates (in the strand's
    frame, as `OMap.labels rev` gives them) ascending along the list -/
theorem C02_start_end_order (P : Params) (segs : List Seg) (qid rid ql rl : Int) (rev : Bool)
    (ha : Ascending ((segs.flatMap Seg.pairs).map (fun p => p.r.pos)))
    (hq : Ascending ((segs.flatMap Seg.pairs).map (fun p => p.q.pos))) :
    let row := Row.create P segs qid rid ql rl rev
    row.rStart ≤ row.rEnd ∧ (rev = false → row.qStart ≤ row.qEnd) ∧ (rev = true → row.qEnd ≤ row.qStart) :=
  Coma.Proofs.row_start_end_order P segs qid rid ql rl rev ha hq

/-- in `m.labels rev` coordinates ascend with the label number on '+', descend on '-' (for a map with ascending positions) -/
theorem C02_frame_monotone (m : OMap) (rev : Bool) (hm : Ascending m.positions) (l1 l2 : Lbl)
    (h1 : l1 ∈ m.labels rev) (h2 : l2 ∈ m.labels rev) (hs : l1.site ≤ l2.site) :
    if rev then l2.pos ≤ l1.pos else l1.pos ≤ l2.pos :=
  Coma.Proofs.labels_frame_monotone m rev hm l1 l2 h1 h2 hs

/-- non-vacuity: a reverse-strand row of two one-pair segments satisfies the hypotheses of
    `C02_start_end_order` and has QryEndPos strictly below QryStartPos -/
example :
    let segs : List Seg := [⟨500, [.pair ⟨⟨4, 9000⟩, ⟨7, 8500⟩, 0, 0⟩]⟩, ⟨700, [.pair ⟨⟨5, 12000⟩, ⟨6, 11500⟩, 0, 0⟩]⟩]
    let row := Row.create ⟨1000, 1, -250, 1500, 1000, 1200⟩ segs 3 1 20001 99999 true
    (segs.flatMap Seg.pairs).map (fun p => p.r.pos) = [9000, 12000] ∧
    (segs.flatMap Seg.pairs).map (fun p => p.q.pos) = [8500, 11500] ∧
    row.qEnd < row.qStart ∧ row.rStart < row.rEnd := by
  decide +kernel

/-- the frame of a trimmed query: on '+' a label's coordinate is its distance from the FIRST label, on '−' its
    distance from the LAST label (label numbers 1, 2, 3, … in file order on both strands) -/
theorem C02_trimmed_frame (m : OMap) (p0 : Int) (ps : List Int) (hp : m.positions = p0 :: ps) (rev : Bool) (l : Lbl) :
    l ∈ m.trim.labels rev ↔ ∃ k : Nat, ∃ p, m.positions[k]? = some p ∧ l.site = (k : Int) + 1 ∧
      l.pos = (if rev then lastD p0 m.positions - p else p - p0) :=
  Coma.Proofs.trim_labels_frame m p0 ps hp rev l

/-- non-vacuity: a three-label molecule, trimmed, read on '−': coordinates 8000, 5000, 0 for labels 1, 2, 3
    (listed from the last label), and 0, 3000, 8000 on '+' -/
example : (OMap.trim ⟨7, 12000, [1000, 4000, 9000], 5⟩).labels true = [⟨3, 0⟩, ⟨2, 5000⟩, ⟨1, 8000⟩] ∧
    (OMap.trim ⟨7, 12000, [1000, 4000, 9000], 5⟩).labels false = [⟨1, 0⟩, ⟨2, 3000⟩, ⟨3, 8000⟩] := by
  decide +kernel

end Coma.Props
