/-
  Props/C03.lean — PROPERTY THEOREMS for C03 (HitEnum is a faithful run-length encoding of the
  aligned pairs).  Statements, proved by reference to the theorems of Proofs/Cigar.lean
  (`C03_run_totals`: the counts of `C03_counts` read on the expanded runs).

  `hitEnums` models the reference-index walk `__getHitEnums`
  (src/alignment/alignment_results.py:134-151), `aggregate` the run-length aggregation
  `__aggregateHitEnums` (lines 159-171, as repaired by the `fix:` commit), `replay` is the
  decoder the property talks about.
  Quantifier: every valid matching with ≥ 1 pair (any number of pairs, any pattern of skipped
  labels on either map), both orientations.
-/
import Props.Defs
import Proofs.Cigar
namespace Coma.Props
open Coma.Spec

/-- the walk and the aggregation never raise on a valid matching, and replaying the runs from
    the first pair reproduces exactly the listed pairs -/
theorem C03_roundtrip (rev : Bool) (p : Pr) (ps : List Pr) (hv : ValidMatching rev (sitePairs (p :: ps))) :
    ∃ hs rs, hitEnums (p :: ps) = .ok hs ∧ aggregate hs = .ok rs ∧
      replay rev p.r.site p.q.site (expandRuns rs) = some (sitePairs (p :: ps)) :=
  Coma.Proofs.cigar_roundtrip rev p ps hv

/-- run-length aggregation is lossless -/
theorem C03_expand_aggregate (hs : List Hit) (rs : List (Nat × Hit)) (h : aggregate hs = .ok rs) :
    expandRuns rs = hs :=
  Coma.Proofs.expand_aggregate hs rs h

/-- the operation list starts and ends with M -/
theorem C03_starts_ends_M (rev : Bool) (p : Pr) (ps : List Pr) (hv : ValidMatching rev (sitePairs (p :: ps)))
    (hs : List Hit) (h : hitEnums (p :: ps) = .ok hs) :
    hs.head? = some Hit.M ∧ hs.getLast? = some Hit.M :=
  Coma.Proofs.hits_start_end_M rev p ps hv hs h

/-- adjacent runs never repeat an operation, every run has a positive count, and the run list
    is non-empty; first and last runs are M runs -/
theorem C03_no_adjacent_equal (hs : List Hit) (rs : List (Nat × Hit)) (h : aggregate hs = .ok rs) :
    rs ≠ [] ∧ (∀ r ∈ rs, 0 < r.1) ∧ Consec (fun a b => a.2 ≠ b.2) rs ∧
    (rs.head?.map (·.2) = hs.head?) ∧ (rs.getLast?.map (·.2) = hs.getLast?) :=
  (Coma.Proofs.aggregate_spec hs rs h).2

/-- the rendered HitEnum of a record with a pair is a non-empty string -/
theorem C03_nonempty (rev : Bool) (p : Pr) (ps : List Pr) (hv : ValidMatching rev (sitePairs (p :: ps))) :
    ∃ s, cigarOf aggregate (p :: ps) = .ok s ∧ s ≠ "" :=
  Coma.Proofs.cigar_nonempty rev p ps hv

/-- what the unrepaired loop did (F1): a one-pair record got the empty run list -/
theorem C03_unrepaired_counterexample : (aggregateBuggy [Hit.M]).toOption = some [] := by decide

/-- non-vacuity: the example from the project's own test data -/
example : (cigarOf aggregate [⟨⟨1, 0⟩, ⟨1, 0⟩, 0, 0⟩, ⟨⟨3, 0⟩, ⟨3, 0⟩, 0, 0⟩]).toOption = some "1M1I1D1M" := by decide +kernel
example : ValidMatching false (sitePairs [⟨⟨1, 0⟩, ⟨1, 0⟩, 0, 0⟩, ⟨⟨3, 0⟩, ⟨3, 0⟩, 0, 0⟩]) := by
  simp [ValidMatching, sitePairs]

/-- the operation string accounts for every label between the first and the last pair exactly
    once: one M per listed pair, M+D = number of reference labels spanned, M+I = number of query
    labels spanned -/
theorem C03_counts (rev : Bool) (p : Pr) (ps : List Pr) (hv : ValidMatching rev (sitePairs (p :: ps)))
    (hs : List Hit) (h : hitEnums (p :: ps) = .ok hs) :
    hs.count Hit.M = (p :: ps).length ∧
    ((hs.count Hit.M + hs.count Hit.D : Nat) : Int) = ((p :: ps).getLast (by simp)).r.site - p.r.site + 1 ∧
    ((hs.count Hit.M + hs.count Hit.I : Nat) : Int) = (((p :: ps).getLast (by simp)).q.site - p.q.site).natAbs + 1 :=
  Coma.Proofs.cigar_counts rev p ps hv hs h

/-- non-vacuity of `C03_counts`: a reverse-strand matching of three pairs (2,9),(4,8),(5,5) with a
    skipped reference label (3) and two skipped query labels (7,6): M D M I I M, so
    M = 3, M+D = 4 = 5-2+1, M+I = 5 = |5-9|+1 -/
example : (hitEnums [⟨⟨2, 0⟩, ⟨9, 0⟩, 0, 0⟩, ⟨⟨4, 0⟩, ⟨8, 0⟩, 0, 0⟩, ⟨⟨5, 0⟩, ⟨5, 0⟩, 0, 0⟩]).toOption =
    some [Hit.M, Hit.D, Hit.M, Hit.I, Hit.I, Hit.M] := by decide +kernel
example : ((hitEnums [⟨⟨2, 0⟩, ⟨9, 0⟩, 0, 0⟩, ⟨⟨4, 0⟩, ⟨8, 0⟩, 0, 0⟩, ⟨⟨5, 0⟩, ⟨5, 0⟩, 0, 0⟩]).toOption.map
    fun hs => (hs.count Hit.M, hs.count Hit.D, hs.count Hit.I)) = some (3, 1, 2) := by decide +kernel
example : ValidMatching true (sitePairs [⟨⟨2, 0⟩, ⟨9, 0⟩, 0, 0⟩, ⟨⟨4, 0⟩, ⟨8, 0⟩, 0, 0⟩, ⟨⟨5, 0⟩, ⟨5, 0⟩, 0, 0⟩]) := by
  simp [ValidMatching, sitePairs]

/-- the numbers written in the HitEnum string: the M runs add up to the number of listed pairs, M and D runs
    together to the number of reference labels spanned, M and I runs together to the number of query labels spanned -/
theorem C03_run_totals (rev : Bool) (p : Pr) (ps : List Pr) (hv : ValidMatching rev (sitePairs (p :: ps)))
    (hs : List Hit) (rs : List (Nat × Hit)) (h : hitEnums (p :: ps) = .ok hs) (ha : aggregate hs = .ok rs) :
    Coma.Proofs.runTotal Hit.M rs = (p :: ps).length ∧
    ((Coma.Proofs.runTotal Hit.M rs + Coma.Proofs.runTotal Hit.D rs : Nat) : Int) = ((p :: ps).getLast (by simp)).r.site - p.r.site + 1 ∧
    ((Coma.Proofs.runTotal Hit.M rs + Coma.Proofs.runTotal Hit.I rs : Nat) : Int) = (((p :: ps).getLast (by simp)).q.site - p.q.site).natAbs + 1 := by
  have e := Coma.Proofs.expand_aggregate hs rs ha
  simp only [← Coma.Proofs.count_expandRuns, e]
  exact Coma.Proofs.cigar_counts rev p ps hv hs h

/-- non-vacuity of `C03_run_totals`: the same reverse matching (2,9),(4,8),(5,5) is written as the runs
    1M 1D 1M 2I 1M; M runs total 3, D runs 1, I runs 2 -/
example : ((hitEnums [⟨⟨2, 0⟩, ⟨9, 0⟩, 0, 0⟩, ⟨⟨4, 0⟩, ⟨8, 0⟩, 0, 0⟩, ⟨⟨5, 0⟩, ⟨5, 0⟩, 0, 0⟩]).toOption.bind
    fun hs => (aggregate hs).toOption) =
    some [(1, Hit.M), (1, Hit.D), (1, Hit.M), (2, Hit.I), (1, Hit.M)] := by decide +kernel
example : (Coma.Proofs.runTotal Hit.M [(1, Hit.M), (1, Hit.D), (1, Hit.M), (2, Hit.I), (1, Hit.M)],
    Coma.Proofs.runTotal Hit.D [(1, Hit.M), (1, Hit.D), (1, Hit.M), (2, Hit.I), (1, Hit.M)],
    Coma.Proofs.runTotal Hit.I [(1, Hit.M), (1, Hit.D), (1, Hit.M), (2, Hit.I), (1, Hit.M)]) = (3, 1, 2) := by decide +kernel

end Coma.Props
