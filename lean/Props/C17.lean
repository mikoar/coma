/-
  Props/C17.lean — PROPERTY THEOREMS for C17 (CMAP reading returns every labelled molecule
  exactly; trimming keeps geometry).  Statements, each proved in a few lines from the lemmas of
  Proofs/Cmap.lean or by reference to the theorem there.

  `readCmap unit rows ids` models `CmapReader.__read` (src/parsers/cmap_reader.py:23-39) on the
  rows pandas delivers (columns CMapId, LabelChannel, Position; positions in `unit`-ths of a bp,
  unit = 1 or 10); `OMap.trim` models src/correlation/optical_map.py:38-43.
  Quantifier: every row list in any order, any ids, label counts, coordinates; every id filter.
  A molecule without an end-marker row is the modelled IndexError branch (outside "syntactically
  valid").
-/
import Props.Defs
import Proofs.Cmap
namespace Coma.Props
open Coma.Spec

/-- the rows the reader looks at: all, or those of the listed ids -/
def selected (rows : List CRow) (ids : List Int) : List CRow :=
  if ids.isEmpty then rows else rows.filter (fun r => ids.contains r.id)

def labelCoords (rows : List CRow) (id : Int) : List Int :=
  (rows.filter (fun r => r.id = id ∧ r.chan ≠ 0)).map (·.pos)

/-- one map per molecule id with ≥ 1 label, ids strictly ascending; positions are exactly that
    molecule's label coordinates in ascending order; the length is the first end-marker row's
    coordinate truncated to an integer -/
theorem C17_read (unit : Int) (rows : List CRow) (ids : List Int) (ms : List OMap)
    (h : readCmap unit rows ids = .ok ms) :
    StrictAscending (ms.map (·.id)) ∧
    (∀ m ∈ ms, (ids = [] ∨ m.id ∈ ids) ∧
        m.positions.Perm (labelCoords rows m.id) ∧ Ascending m.positions ∧ m.positions ≠ [] ∧ m.shift = 0 ∧
        ∃ em, (rows.filter (fun r => r.id = m.id)).find? (fun r => r.chan = 0) = some em ∧
              m.length = Int.tdiv em.pos unit) ∧
    (∀ r ∈ selected rows ids, r.chan ≠ 0 → ∃ m ∈ ms, m.id = r.id) :=
  Coma.Proofs.readCmap_spec unit rows ids ms h

/-- molecules without labels are skipped (they still need their end marker) -/
theorem C17_skip_unlabelled (unit : Int) (rows : List CRow) (ids : List Int) (ms : List OMap)
    (h : readCmap unit rows ids = .ok ms) (id : Int) (hno : labelCoords (selected rows ids) id = []) :
    ∀ m ∈ ms, m.id ≠ id := by
  intro m hm hid
  obtain ⟨_, c2, _⟩ := Coma.Proofs.Cmap.read_core unit rows ids ms h
  obtain ⟨_, hne, _⟩ := c2 m hm
  rw [hid] at hne
  exact hne hno  -- `hne` speaks of `labelCoords'`, `selected'` of Proofs/Cmap.lean: the same functions

/-- the only failure: a selected molecule without an end-marker row -/
theorem C17_error_iff (unit : Int) (rows : List CRow) (ids : List Int) :
    (∃ e, readCmap unit rows ids = .error e) ↔
      ∃ r ∈ selected rows ids, ∀ r' ∈ selected rows ids, r'.id = r.id → r'.chan ≠ 0 := by
  simp only [Coma.Proofs.Cmap.readCmap_eq, Coma.Proofs.Exc.map_error, Coma.Proofs.Exc.mapM_error_iff,
    Coma.Proofs.Cmap.mem_sortedIds, Coma.Proofs.Cmap.parseGroup_error_iff]
  constructor
  · rintro ⟨_, ⟨r, hr, rfl⟩, h⟩
    exact ⟨r, hr, h⟩
  · rintro ⟨r, hr, h⟩
    exact ⟨_, ⟨r, hr, rfl⟩, h⟩

/-- an id filter is the same as reading a file physically restricted to those molecules -/
theorem C17_filter (unit : Int) (rows : List CRow) (ids : List Int) (hne : ids ≠ []) :
    readCmap unit rows ids = readCmap unit (rows.filter (fun r => ids.contains r.id)) [] := by
  cases ids with
  | nil => exact absurd rfl hne
  | cons a as => rfl

/-- row order and molecule order in the file do not matter (one end marker per molecule) -/
theorem C17_perm (unit : Int) (rows rows' : List CRow) (ids : List Int) (hp : rows.Perm rows')
    (h1 : ∀ id, (rows.filter (fun r => r.id = id ∧ r.chan = 0)).length ≤ 1) :
    readCmap unit rows ids = readCmap unit rows' ids :=
  Coma.Proofs.readCmap_perm unit rows rows' ids hp h1

/-- trimming: first label at 0, same number of labels, all distances kept, length = last − first
    + 1, id kept, idempotent -/
theorem C17_trim (m : OMap) (p0 : Int) (ps : List Int) (hp : m.positions = p0 :: ps) :
    m.trim.positions = m.positions.map (· - p0) ∧
    m.trim.positions.head? = some 0 ∧
    m.trim.positions.length = m.positions.length ∧
    m.trim.length = lastD p0 m.positions - p0 + 1 ∧
    m.trim.id = m.id ∧
    m.trim.trim = m.trim :=
  Coma.Proofs.trim_spec m p0 ps hp

theorem C17_trim_empty (m : OMap) (h : m.positions = []) : m.trim = m :=
  Coma.Proofs.trim_empty m h

/-- non-vacuity: shuffled rows, two molecules, one without labels -/
example : (readCmap 10 [⟨2, 1, 300⟩, ⟨1, 0, 12345⟩, ⟨2, 0, 999⟩, ⟨2, 1, 105⟩, ⟨3, 0, 50⟩] []).toOption =
    some [⟨2, 99, [105, 300], 0⟩] := by decide +kernel

end Coma.Props
