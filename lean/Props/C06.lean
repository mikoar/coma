/-
  Props/C06.lean — PROPERTY THEOREMS for C06 (a noise-free copy of an interior reference region
  is placed exactly).  PARTIAL: the theorems carry the LOGIC — given a seed within 200 bp of the
  true offset the candidate is exactly the true pairs; the secondary correlation of an exact copy
  is maximal at the true lag and a maximal plateau flanked by lower samples is returned as a seed
  (the secondary stage is inside the model, `Coma/Peaks.lean`) —; that the PRIMARY float
  correlation selects a peak near the true placement, and that the maximal plateau of the secondary
  correlation lies within 200 bp of it, is exercised by the harness's sweep over the property's
  stated domain (which also checks the theorem's hypothesis on every instance) and by the REFINE /
  PRIMARY streams with planted copies.

  Models: `alignerAlign` with `defaultParams` (sp 1000, dp 1, su −250, d 1500, ms 1000, bs 1200),
  `toBp` (bin centre, src/correlation/optical_map.py:26-28), `bestRow`.
  Quantifier: every reference with label spacing ≥ 2000, every window of n ≥ 2 consecutive labels
  (the property needs ≥ 15), both strands, every seed within 200 bp, any chain configuration.
-/
import Proofs.Peaks
import Props.Defs
import Props.C05
import Props.C16
import Proofs.Exact
import Proofs.Corr
import Proofs.CopySeed
namespace Coma.Props
open Coma.Spec

/-- exact placement given a seed within 200 bp: exactly the true label-to-label pairs, each at
    offset seed − true offset (hence within 200 bp of the seed diagonal), no HitEnum gaps (n
    matches), confidence n·(1000 − |offset|), on that reference and strand -/
theorem C06_exact_given_seed (ref : OMap) (hshift : ref.shift = 0)
    (hsp : ref.positions.Pairwise (fun a b => a + 2000 ≤ b))
    (i0 n : Nat) (hn : 2 ≤ n) (hwin : i0 + n ≤ ref.positions.length)
    (qid : Int) (rev : Bool) (s w0 : Int) (C : ChainCfg) (it : Int)
    (hw0 : ref.positions[i0]? = some w0) (hs : (s - w0).natAbs ≤ 200) :
    ∃ row, alignerAlign defaultParams C ref (copyQuery qid ((ref.positions.drop i0).take n) rev) [s] rev it = .ok row ∧
      sitePairs row.pairs = truePairs i0 n rev ∧
      (∀ p ∈ row.pairs, p.shift = s - w0) ∧
      row.confidence = (n : Int) * (1000 - ((s - w0).natAbs : Int)) ∧
      hitEnums row.pairs = .ok (List.replicate n Hit.M) ∧
      row.referenceId = ref.id ∧ row.rev = rev := by
  have h := Coma.Proofs.exact_copy_of_params defaultParams 2000 ref hshift hsp i0 n (by omega) hwin qid rev s w0 C it hw0
    (by simp only [defaultParams]; omega) (by simp only [defaultParams]; omega) (by simp only [defaultParams]; omega)
    (by decide) (by
      -- two pairs at distance ≤ 200 already reach `minScore` = 1000
      have h2 : (2 : Int) * (1000 - ((s - w0).natAbs : Int)) ≤ (n : Int) * (1000 - ((s - w0).natAbs : Int)) :=
        Int.mul_le_mul_of_nonneg_right (by omega) (by omega)
      simp only [defaultParams, Int.one_mul]
      omega)
  simpa only [defaultParams, Int.one_mul] using h

/-- a correlation bin converts to a coordinate within half a resolution of every position of the
    bin (so a seed found in the right bin is within resolution/2 ≤ 50 bp of the true offset at the
    secondary resolution 100) -/
theorem C06_bin_centre (bin res start : Int) (hres : 1 ≤ res) :
    start + bin * res ≤ toBp bin res start ∧ toBp bin res start < start + (bin + 1) * res ∧
    2 * (toBp bin res start - (start + bin * res)) ≤ res ∧
    2 * ((start + (bin + 1) * res - 1) - toBp bin res start) ≤ res :=
  C16_bin_centre bin res start hres

/-- the exact candidate is reported unless another candidate has strictly higher confidence or
    an equal one earlier in seed order -/
theorem C06_wins (rows : List Row) (r : Row) (h : bestRow rows = some r) :
    ∃ l1 l2, rows = l1 ++ r :: l2 ∧ (∀ x ∈ l1, x.confidence < r.confidence) ∧ (∀ x ∈ l2, x.confidence ≤ r.confidence) :=
  (C05_best_candidate rows).2 r h

/-! ### the arithmetic of seeding (what `scipy.signal.correlate` computes exactly; `find_peaks` is runtime)

`corrValid ref q` models `correlate(reference, query, mode='valid')` of two bit vectors as the exact
integer overlap count (the harness compares it with the rounded FFT result on every run). -/

/-- no lag of the correlation scores more than the number of query labels, and a lag at which
    every query label meets a reference label attains that maximum: the true bin is a global
    maximum of the raw correlation -/
theorem C06_corr_peak (ref q : List Nat) (hr : Coma.Proofs.Bits ref) (hq : Coma.Proofs.Bits q) (k : Nat)
    (hk : k + q.length ≤ ref.length) (hm : ∀ j, q.getD j 0 = 1 → ref.getD (k + j) 0 = 1) :
    (corrValid ref q)[k]? = some (sumNat q) ∧ ∀ c ∈ corrValid ref q, c ≤ sumNat q :=
  ⟨Coma.Proofs.corr_at_match ref q hq k hk hm, fun c hc => Coma.Proofs.corr_le_sum ref q hr c hc⟩

/-- the normalised correlation (2·overlap / (window labels + query labels)) never exceeds 1 and is
    exactly 1 at the lags where the reference window is an exact copy of the query: for an exact
    copy the true bin reaches the largest value the normalised correlation can take -/
theorem C06_normalised_peak (ref q : List Nat) (hr : Coma.Proofs.Bits ref) (hq : Coma.Proofs.Bits q) :
    (∀ x ∈ normalised ref q, x.1 ≤ x.2) ∧
    ∀ k, k + q.length ≤ ref.length → ∀ x, (normalised ref q)[k]? = some x →
      (x.1 = x.2 ↔ (ref.drop k).take q.length = q) :=
  ⟨fun x hx => Coma.Proofs.normalised_le_one ref q hr hq x hx,
   fun k hk x hx => Coma.Proofs.normalised_eq_one_iff ref q hr hq k hk x hx⟩

theorem C06_corr_length (ref q : List Nat) (h : q.length ≤ ref.length) :
    (corrValid ref q).length = ref.length - q.length + 1 :=
  Coma.Proofs.corrValid_length ref q h

/-- the secondary correlation exactly as `refine` computes it (`scipy.signal.correlate` on the two blurred
    integer vectors): where the query vector is covered bit for bit by the reference window vector — an
    exact copy at lag `k` — it takes the largest value any lag can take -/
theorem C06_secondary_copy_max (rs qs corr : List Nat) (k : Nat) (hr : Coma.Proofs.Bits rs) (hq : Coma.Proofs.Bits qs)
    (hk : k + qs.length ≤ rs.length) (hc : correlate rs qs = .ok corr)
    (hcov : ∀ j, j < qs.length → qs.getD j 0 = 1 → rs.getD (k + j) 0 = 1) :
    corr[k]? = some (sumNat qs) ∧ ∀ y ∈ corr, y ≤ sumNat qs :=
  Coma.Proofs.correlate_copy_max rs qs corr k hr hq hk hc hcov

/-- and a plateau of the global maximum (at least the height threshold) with a sample of at most 19/20 of
    it on either side passes `find_peaks` as `refine` calls it: its midpoint becomes a seed -/
theorem C06_maximum_is_a_seed (thr : Rat) (x : List Int) (l r : Nat) (v : Int)
    (hpl : Coma.Proofs.IsPlateau x l r) (hv : x[l]? = some v) (hmax : maxInit0 x = v) (hthr : thr ≤ (v : Rat))
    (hleft : ∃ i y, i < l ∧ x[i]? = some y ∧ 20 * y ≤ 19 * v)
    (hright : ∃ j y, r < j ∧ x[j]? = some y ∧ 20 * y ≤ 19 * v) :
    ((l + r) / 2, v) ∈ findPeaksSecondary thr x := by
  obtain ⟨-, hle, -⟩ := Coma.Proofs.maxInit0_spec x
  obtain ⟨i, yi, hil, hyi, hyiv⟩ := hleft
  obtain ⟨j, yj, hjr, hyj, hyjv⟩ := hright
  exact Coma.Proofs.findPeaks_of_plateau thr x l r v hpl hv hthr i j yi yj hil hjr hyi hyj
    (fun k y _ _ hy => hmax ▸ hle y (List.mem_of_getElem? hy)) (by omega)

/-- non-vacuity of the two: a three-label molecule against a reference that contains it (bins of 100 bp,
    blur 1): the correlation peaks with the number of set query bits (7) and the peak is the seed -/
example : (refineCorrelation { res := 100, blur := 1, margin := 600, thr := 5, keep := 10 }
            { id := 1, length := 4000, positions := [300, 1000, 1700, 2100, 3300] }
            { id := 2, length := 1101, positions := [0, 700, 1100] } false 1000).toOption
          = some [2, 2, 2, 2, 3, 5, 7, 5, 3, 2, 3, 3, 3] ∧
    findPeaksSecondary 5 [2, 2, 2, 2, 3, 5, 7, 5, 3, 2, 3, 3, 3] = [(6, 7)] := by decide +kernel

/-- THE SECONDARY STAGE PLACES AN EXACT COPY (label level, default resolution 100 bp and blur 4, forward strand):
    if the query's labels are an exact copy of `n ≥ 13` consecutive reference labels whose spacing is at least 2 kb,
    the refinement window starts at least 500 bp before the first copied label and contains the reference label
    that follows the copied window (`CopyInWindow`), then among the peaks that pass `find_peaks` in `refine` there is
    one whose bin centre is within 200 bp of the true placement `ref.positions[i]` — a seed that satisfies the
    hypothesis of `C06_exact_given_seed`.  (The proof shows the peak at the true lag or the next one, i.e. between
    50 bp before and 149 bp after the true placement.) -/
theorem C06_secondary_seed_near_truth (c : SecCfg) (ref q : OMap) (peak : Int) (i n : Nat)
    (H : Coma.Proofs.CopyInWindow c ref q peak i n) :
    ∃ corr, refineCorrelation c ref q false peak = .ok corr ∧
      ∃ p h, (p, h) ∈ findPeaksSecondary c.thr (corr.map Int.ofNat) ∧
        toBp (p : Int) 100 (peak - c.margin) - ref.positions.getD i 0 ≤ 200 ∧
        ref.positions.getD i 0 - toBp (p : Int) 100 (peak - c.margin) ≤ 200 :=
  Coma.Proofs.secondary_seed_near_copy c ref q peak i n H

/-- … AND ON THE OTHER STRAND: the molecule given to COMA is the mirror image of the exact copy `q0` (trimmed) and is
    refined on the '-' strand (its bit vector is reversed before the correlation; off the lattice every label's bin may
    move by one against the forward vector).  A peak passing `find_peaks` lies at the true lag or next to it on either
    side, i.e. its bin centre is between 150 bp before and 149 bp after the true placement. -/
theorem C06_secondary_seed_near_truth_reverse (c : SecCfg) (ref q0 : OMap) (peak : Int) (i n : Nat)
    (H : Coma.Proofs.CopyInWindow c ref q0 peak i n) (hlen : q0.length = lastD 0 q0.positions + 1) :
    ∃ corr, refineCorrelation c ref q0.mirror true peak = .ok corr ∧
      ∃ p h, (p, h) ∈ findPeaksSecondary c.thr (corr.map Int.ofNat) ∧
        toBp (p : Int) 100 (peak - c.margin) - ref.positions.getD i 0 ≤ 200 ∧
        ref.positions.getD i 0 - toBp (p : Int) 100 (peak - c.margin) ≤ 200 :=
  Coma.Proofs.secondary_seed_near_copy_rev c ref q0 peak i n H hlen

/-- non-vacuity of `CopyInWindow`: 15 reference labels 2 100 bp apart, the query copies labels 1..13, default
    secondary parameters, primary peak 700 bp off -/
example : Coma.Proofs.CopyInWindow {} ⟨1, 40000, (List.range 15).map (fun (k : Nat) => (1000 + 2100 * (k : Int) : Int)), 0⟩
    ⟨2, 25201, (List.range 13).map (fun (k : Nat) => (2100 * (k : Int) : Int)), 0⟩ 3800 1 13 where
  res := rfl
  blur := rfl
  thr := by decide
  many := by decide
  gaps := by decide
  nonneg := by decide
  inside := by decide
  copy := by decide
  start := by decide
  next := by decide
  stopnz := by decide

/-- non-vacuity: a concrete instance of the hypotheses (10 labels, window of 5, reverse strand,
    seed 200 bp off) -/
example : (alignerAlign defaultParams {} ⟨1, 100000, [1000, 5000, 9000, 12000, 20000, 23000, 30000, 40000, 42500, 50000], 0⟩
    (copyQuery 7 [9000, 12000, 20000, 23000, 30000] true) [8800] true 1).toOption.map (fun r => (sitePairs r.pairs, r.confidence)) =
    some ([(3, 5), (4, 4), (5, 3), (6, 2), (7, 1)], 4000) := by decide +kernel

end Coma.Props
