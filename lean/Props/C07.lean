/-
  Props/C07.lean — PROPERTY THEOREMS for C07 (well-formed input never aborts the run; unalignable
  queries just yield no record).  The model makes every Python raise point of the alignment logic
  explicit (`Except Err`), and the theorems below show none of them is reached — in ANY output mode
  (`C07_execute_total`): first pass, fragments, second pass, grouping, joins (after the `fix:` of
  the trailing-trim loop, F11), mode dispatch.  Writing is total on rows that are valid matchings
  (`C07_render_total_of_valid`).

  FULL STATEMENT: "for all well-formed maps, seed tables, modes and allowed parameters
  `runProgram … ≠ .error _`".  Proved: `execute` is total in every mode; rendering is total on
  valid matchings.  What remains outside the theorems (PARTIAL): (1) the HitEnum walk on the
  known-finding candidates (KF-a / KF-b, see C01) that are not valid matchings — the walk is total
  on those too after F1, but this is exercised by the harness rather than proved; (2) exceptions
  inside numpy / scipy / pandas on degenerate arrays in the PRIMARY seeding stage (a parameter of the
  model), which the degenerate end-to-end stream exercises against the real program.  The SECONDARY
  stage is in the model: `C07_refine_total` says exactly when it raises (never, for a primary peak
  not beyond the last reference label by more than the margin).
-/
import Props.Defs
import Props.C18
import Proofs.Compose
import Proofs.Peaks
import Proofs.SeededRun
import Proofs.Total
import Proofs.TiesRun
namespace Coma.Props
open Coma.Spec

/-- building a candidate from any list of seed peaks never raises (pairing, scoring, the segment
    scan, chaining, the whole conflict-resolution pass, the header) — for weakly ascending label coordinates, i.e. also
    for molecules with coincident labels -/
theorem C07_candidate_total (P : Params) (C : ChainCfg) (hP : GoodParams P) (ref qry : OMap) (peaks : List Int)
    (rev : Bool) (it : Int) (hr : Ascending ref.positions) (hq : Ascending qry.positions) :
    ∃ row, alignerAlign P C ref qry peaks rev it = .ok row :=
  Coma.Proofs.alignerAlign_total_weak P C hP ref qry peaks rev it hr hq

/-- the first pass never raises, for any seed table whose seeds name references that were read -/
theorem C07_first_pass_total (cfg : Cfg) (hP : GoodParams cfg.P) (refs : List OMap) (t : SeedTable) (qs : List OMap) (it : Int)
    (hrefs : ∀ r ∈ refs, Ascending r.positions) (hqs : ∀ q ∈ qs, Ascending q.positions)
    (hseeds : ∀ q ∈ qs, ∀ s ∈ t.lookup q.key, ∃ r ∈ refs, r.id = s.refId) :
    ∃ rows, executeSingle cfg refs t qs it = .ok rows :=
  Coma.Proofs.executeSingle_total_weak cfg hP refs t qs it hrefs hqs hseeds

set_option linter.unusedVariables false in  -- `hshift` is part of the statement; the proof does not need it
/-- computing the unaligned fragments of a first-pass record never raises: the query is found by
    id and the record's start/end coordinates occur in its position list -/
theorem C07_fragments_total (P : Params) (C : ChainCfg) (hP : GoodParams P) (ref q : OMap) (peaks : List Int)
    (rev : Bool) (it : Int) (hr : Ascending ref.positions) (hq : Ascending q.positions)
    (hshift : q.shift = 0) (row : Row) (h : alignerAlign P C ref q peaks rev it = .ok row) (hp : row.pairs ≠ [])
    (queries : List OMap) (hfind : queries.find? (fun m => m.id = row.queryId) = some q) :
    ∃ frags, unalignedFragments row queries = .ok frags ∧
      ∀ f ∈ frags, Ascending f.positions ∧ f.id = q.id :=
  Coma.Proofs.unalignedFragments_total_weak P C hP ref q peaks rev it hr hq row h hp queries hfind

/-- the second pass never raises -/
theorem C07_second_pass_total (cfg : Cfg) (hP : GoodParams cfg.P) (refs : List OMap) (t : SeedTable) (qs : List OMap) (it : Int)
    (hrefs : ∀ r ∈ refs, Ascending r.positions) (hqs : ∀ q ∈ qs, Ascending q.positions ∧ q.shift = 0)
    (hids : (qs.map (·.id)).Nodup)
    (hseeds : ∀ k, ∀ s ∈ t.lookup k, ∃ r ∈ refs, r.id = s.refId)
    (first : List Row) (h1 : executeSingle cfg refs t qs it = .ok first) :
    ∃ second, secondPass cfg refs t qs first it = .ok second :=
  (Coma.Proofs.secondPass_total_weak cfg hP refs t qs it hrefs (fun q hq => (hqs q hq).1) hids hseeds first h1).imp
    fun _ h => h.1

/-- whole-run totality of the alignment logic, EVERY output mode ('single', 'separate', 'joined',
    'all', 'best'): first pass, fragments, second pass, grouping, joins, mode dispatch — for WEAKLY ascending label
    coordinates: molecules with coincident labels are legal input and are inside the theorem
    (Proofs/TiesRun.lean: non-vacuity witnesses with coincident labels at a record's start and end, `TiesRun.witness_*`) -/
theorem C07_execute_total (cfg : Cfg) (mode : Mode) (hP : GoodParams cfg.P) (refs : List OMap) (t : SeedTable) (qs : List OMap) (it : Int)
    (hrefs : ∀ r ∈ refs, Ascending r.positions) (hqs : ∀ q ∈ qs, Ascending q.positions ∧ q.shift = 0)
    (hids : (qs.map (·.id)).Nodup)
    (hseeds : ∀ k, ∀ s ∈ t.lookup k, ∃ r ∈ refs, r.id = s.refId) :
    ∃ out, execute cfg mode refs t qs it = .ok out :=
  Coma.Proofs.execute_total_weak cfg mode hP refs t qs it hrefs hqs hids hseeds

/-- one resolver step can only raise when a non-empty segment has no aligned pair -/
theorem C07_resolve_step_total (P : Params) (L R : Seg)
    (hL : L.items = [] ∨ L.pairs ≠ []) (hR : R.items = [] ∨ R.pairs ≠ []) :
    ∃ l r b, resolvePairB P L R = .ok (l, r, b) :=
  Coma.Proofs.resolvePairB_total_of_pairs P L R hL hR

/-- the first segment of every candidate row is empty or keeps a pair: what the join reads -/
theorem C07_candidate_first_segment (P : Params) (C : ChainCfg) (hP : GoodParams P) (ref qry : OMap) (peaks : List Int)
    (rev : Bool) (it : Int) (hr : Ascending ref.positions) (hq : Ascending qry.positions)
    (row : Row) (h : alignerAlign P C ref qry peaks rev it = .ok row) :
    ∀ s, row.segments.head? = some s → s.items = [] ∨ s.pairs ≠ [] :=
  Coma.Proofs.alignerAlign_first_segment_weak P C hP ref qry peaks rev it hr hq row h

/-- writing never raises on rows that are valid matchings -/
theorem C07_render_total_of_valid (cfg : Cfg) (rows : List Row)
    (hv : ∀ r ∈ rows, r.pairs = [] ∨ ValidMatching r.rev (sitePairs r.pairs)) :
    ∃ lines, renderRows cfg rows = .ok lines :=
  Coma.Proofs.renderRows_total_of_valid cfg rows hv

/-- the modes without a join: 'separate' (first- and second-pass files) and single-pass
    (instances of `C07_execute_total`, kept because they need fewer hypotheses) -/
theorem C07_separate_mode_total (cfg : Cfg) (hP : GoodParams cfg.P) (refs : List OMap) (t : SeedTable) (qs : List OMap) (it : Int)
    (hrefs : ∀ r ∈ refs, Ascending r.positions) (hqs : ∀ q ∈ qs, Ascending q.positions ∧ q.shift = 0)
    (hids : (qs.map (·.id)).Nodup)
    (hseeds : ∀ k, ∀ s ∈ t.lookup k, ∃ r ∈ refs, r.id = s.refId) :
    ∃ out, execute cfg .separate refs t qs it = .ok out :=
  Coma.Proofs.execute_total_weak cfg .separate hP refs t qs it hrefs hqs hids hseeds

theorem C07_single_mode_total (cfg : Cfg) (hP : GoodParams cfg.P) (refs : List OMap) (t : SeedTable) (qs : List OMap) (it : Int)
    (hrefs : ∀ r ∈ refs, Ascending r.positions) (hqs : ∀ q ∈ qs, Ascending q.positions ∧ q.shift = 0)
    (hseeds : ∀ k, ∀ s ∈ t.lookup k, ∃ r ∈ refs, r.id = s.refId) :
    ∃ out, execute cfg .single refs t qs it = .ok out := by
  -- no fragments are looked up, so the ids need not be distinct
  obtain ⟨first, h1⟩ := Coma.Proofs.executeSingle_total_weak cfg hP refs t qs it hrefs (fun q hq => (hqs q hq).1)
    (fun q _ => hseeds q.key)
  exact ⟨_, Coma.Proofs.execute_ok_iff.mpr ⟨first, h1, rfl⟩⟩

/-- a query that cannot be seeded (no correlation peak: too long for every reference, too few
    labels) contributes no record and does not change the records of the others -/
theorem C07_unalignable_silent (cfg : Cfg) (refs : List OMap) (t : SeedTable) (q : OMap) (qs : List OMap) (it : Int)
    (h : t.lookup q.key = []) :
    executeSingle cfg refs t (q :: qs) it = executeSingle cfg refs t qs it :=
  Coma.Proofs.executeSingle_unalignable cfg refs t q qs it h

/-- every file COMA writes can be read back, including the file with zero records -/
theorem C07_readback (xs : List XRow) (hne : ∀ x ∈ xs, x.pairs ≠ []) :
    ∃ als, readXmap? (xs.map XRow.fields) = some als ∧ als.length = xs.length :=
  ⟨xs.map XRow.asRead, C18_file_roundtrip xs hne, by simp⟩

theorem C07_readback_empty : readXmap? [] = some [] := rfl

/-- what the unrepaired trailing-trim loop did (F11): the conflicting part of a segment consisting
    only of an unpaired label beyond the other segment's range was popped completely and the next
    `positions[-1]` raised IndexError — reachable by joining a first-pass record whose first segment
    ends on an unpaired label with the alignment of its unaligned rest -/
theorem C07_unrepaired_trim_counterexample :
    (trimEndUnguarded ⟨⟨11, 110000⟩, ⟨3, 20000⟩, 0, 0⟩ [APos.uref ⟨13, 150000⟩]).toOption = none ∧
    (trimEnd ⟨⟨11, 110000⟩, ⟨3, 20000⟩, 0, 0⟩ [APos.uref ⟨13, 150000⟩]).toOption = some [] := by
  decide +kernel

/-- after the repair the trailing trim is total -/
theorem C07_trim_total (e : Pr) (xs : List APos) : ∃ ys, trimEnd e xs = .ok ys := ⟨_, rfl⟩

/-- non-vacuity of the parameter hypothesis: the defaults -/
example : GoodParams defaultParams := ⟨by decide, by decide, by decide, by decide⟩

set_option linter.unusedVariables false in  -- `hqs`, `hrs` are part of the statement; the proof does not need them
/-- the refinement of a primary peak (secondary correlation, `find_peaks`, top ten) raises exactly when no
    reference label lies at or after the start of the refinement window — scipy's `correlate` then gets
    an empty array — and in no other case, whatever the molecule, strand, peak and (valid) parameters -/
theorem C07_refine_total (c : SecCfg) (ref q : OMap) (rev : Bool) (peak : Int) (hres : 1 ≤ c.res) (hb : 0 ≤ c.blur)
    (hqs : Ascending q.positions) (hrs : Ascending ref.positions)
    (hq : ∃ p ∈ q.positions, 0 ≤ p) (hr : ref.positions ≠ []) :
    (∃ pk, refine c ref q rev peak = .ok pk) ↔ ∃ p ∈ ref.positions, peak - c.margin ≤ p := by
  rw [Coma.Proofs.Peaks.refine_eq_map, Coma.Proofs.Exc.map_isOk]
  exact Coma.Proofs.refineCorrelation_isOk_iff c ref q rev peak hres hb hq hr

/-- and the only exception it can raise is that IndexError -/
theorem C07_refine_error_kind (c : SecCfg) (ref q : OMap) (rev : Bool) (peak : Int) (e : Err) (hres : 1 ≤ c.res) (hb : 0 ≤ c.blur)
    (hq : q.positions ≠ []) (hr : ref.positions ≠ []) (h : refine c ref q rev peak = .error e) : e = .indexError := by
  obtain ⟨s, hs⟩ := Coma.Proofs.Peaks.sequenceOf_exists c.res c.blur q.positions 0 none hres hb hq
  obtain ⟨rs, hrs⟩ := Coma.Proofs.Peaks.sequenceOf_exists c.res c.blur ref.positions (peak - c.margin)
    (some (peak + q.length + c.margin)) hres hb hr
  rw [Coma.Proofs.Peaks.refine_eq_map, Coma.Proofs.Exc.map_error,
    Coma.Proofs.Peaks.refineCorrelation_of_seq hs hrs] at h
  exact Coma.Proofs.Peaks.correlate_error _ _ e h

/-- WHOLE RUN WITH THE SECONDARY STAGE INSIDE THE MODEL: if every selected primary peak names a reference of the run
    and its refinement window reaches a label of that reference (`PTableOK`; true of every peak the primary stage
    can select, which lies at an interior lag of the primary correlation), then deriving the seed table — vectorise,
    blur, correlate, find_peaks, top ten, for every molecule and fragment — succeeds, and the alignment logic then
    runs to completion in EVERY output mode -/
theorem C07_seeded_run_total (cfg : Cfg) (c : SecCfg) (mode : Mode) (hP : GoodParams cfg.P) (refs qs : List OMap) (pt : PTable) (it : Int)
    (hres : 1 ≤ c.res) (hb : 0 ≤ c.blur)
    (hrefs : ∀ r ∈ refs, Ascending r.positions) (hqs : ∀ q ∈ qs, Ascending q.positions ∧ q.shift = 0)
    (hids : (qs.map (·.id)).Nodup) (hrid : (refs.map (·.id)).Nodup)
    (hpt : Coma.Proofs.PTableOK c refs qs pt) :
    ∃ d out, deriveTable c refs qs pt = .ok d ∧ execute cfg mode refs d.table qs it = .ok out :=
  Coma.Proofs.seeded_execute_total_weak cfg c mode hP refs qs pt it hres hb hrefs hqs hids hrid hpt

set_option linter.unusedVariables false in  -- `hnn` is part of the statement; the proof does not need it
/-- the hypothesis of `C07_seeded_run_total` holds for every peak the primary stage can select: a primary peak is the
    centre of an INTERIOR lag `k` of the primary correlation (scipy's `find_peaks` never returns the first or the last
    sample), the reference vector ends with the bin of the last reference label, so the refinement window (which starts
    `margin ≥ 0` before the peak) always reaches a reference label — at every primary resolution and blur -/
theorem C07_primary_peak_window (res1 blur1 margin : Int) (ref : OMap) (rv : List Nat) (k : Nat)
    (hres : 1 ≤ res1) (hm : 0 ≤ margin) (hasc : Ascending ref.positions) (hnn : ∀ p ∈ ref.positions, 0 ≤ p)
    (hv : sequenceOf res1 blur1 ref.positions 0 none = .ok rv) (hk : k + 1 < rv.length) :
    ∃ p ∈ ref.positions, toBp (k : Int) res1 0 - margin ≤ p := by
  obtain ⟨_, hlen, _⟩ := Coma.Proofs.Peaks.sequenceOf_spec res1 blur1 ref.positions 0 none rv hasc hv
  obtain ⟨p, hp, hle⟩ := (Coma.Proofs.Vector.vecGo_spec res1 _ hres ref.positions 0).1 (k + 1) (hlen ▸ hk)
  have := (Coma.Proofs.toBp_centre (k : Int) res1 0 hres).2.1
  push_cast at hle
  exact ⟨p, hp, by omega⟩

/-- non-vacuity / the error branch: a window that starts after the last reference label -/
example : refine {} { id := 1, length := 50000, positions := [1000, 9000] } { id := 2, length := 701, positions := [0, 700] } false 30000
    = .error .indexError := by decide +kernel

end Coma.Props
