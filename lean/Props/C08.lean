/-
  Props/C08.lean — PROPERTY THEOREMS for C08 (output modes agree; joined records are justified
  by and faithful to their parts).  Statements only; proofs in Proofs/Modes.lean.

  Models: `execute` (mode dispatch, src/multi_pass_workflow_coordinator.py:27-59, 70-83 +
  Program.run), `resolveRows` (AlignmentResults.resolve, alignment_results.py:44-64),
  `checkOverlap` (lines 234-250), `joinRows` (lines 252-280, with the `fix:` validity check).
  Quantifier: all inputs / seed tables, all maxDifference values, the four multi-pass modes.

  FULL STATEMENT of the last clause (kept visible): "when the union of the two parts' pairs is
  itself a valid matching the joined record is exactly the union".  It is FALSE of the code:
  only `segments[0]` of each part enters the join (`C08_join_drops_segments_counterexample`,
  known finding KF-c), and two single-segment parts that interleave (the second-pass fragment
  deliberately re-uses the last 2-3 labels of the first-pass record) are cut at one index, which
  drops compatible pairs of the losing side (`C08_join_cuts_interleaving_counterexample`, known
  finding KF-d).  Proved instead: `C08_join_union_partial` for single-segment parts that do not
  interleave.
-/
import Props.Defs
import Proofs.Modes
namespace Coma.Props
open Coma.Spec

/-- main file of 'all' = main file of 'joined'; its _1/_2 files = main/_1 files of 'separate' -/
theorem C08_mode_files (cfg : Cfg) (refs : List OMap) (t : SeedTable) (qs : List OMap) (it : Int)
    (oa oj os : Output)
    (ha : execute cfg .all refs t qs it = .ok oa) (hj : execute cfg .joined refs t qs it = .ok oj)
    (hs : execute cfg .separate refs t qs it = .ok os) :
    oa.main = oj.main ∧
    (∃ f1 f2 s1, oa.extra = [(1, f1), (2, f2)] ∧ os.extra = [(1, s1)] ∧ f1 = os.main ∧ f2 = s1) :=
  Coma.Proofs.mode_files cfg refs t qs it oa oj os ha hj hs

/-- the second-pass file carries AlignedRest = True on every record, the first-pass file False -/
theorem C08_aligned_rest_flags (cfg : Cfg) (refs : List OMap) (t : SeedTable) (qs : List OMap) (it : Int)
    (os : Output) (hs : execute cfg .separate refs t qs it = .ok os) :
    (∀ r ∈ os.main, r.alignedRest = false) ∧ (∀ f ∈ os.extra, ∀ r ∈ f.2, r.alignedRest = true) :=
  Coma.Proofs.aligned_rest_flags cfg refs t qs it os hs

/-- every input row is either un-joined or one of the two parts of exactly one joined row -/
theorem C08_resolve_partitions (P : Params) (d : Int) (rows joined separate : List Row)
    (h : resolveRows P d rows = .ok (joined, separate))
    (h2 : ∀ q r, (rows.filter (fun x => x.queryId = q ∧ x.referenceId = r)).length ≤ 2) :
    separate.length + 2 * joined.length = rows.length ∧ (∀ x ∈ separate, x ∈ rows) :=
  Coma.Proofs.resolveRows_partition P d rows joined separate h h2

/-- a joined record exists only for two rows of the same query on the same reference and strand
    whose reference gap is at most maxDifference -/
theorem C08_join_eligibility (P : Params) (d : Int) (rows joined separate : List Row)
    (h : resolveRows P d rows = .ok (joined, separate)) :
    ∀ j ∈ joined, ∃ x ∈ rows, ∃ y ∈ rows,
      x.queryId = y.queryId ∧ x.referenceId = y.referenceId ∧ x.rev = y.rev ∧
      iabs (max x.rStart y.rStart - min x.rEnd y.rEnd) ≤ d ∧
      joinRows P x y = .ok (some j) :=
  Coma.Proofs.resolveRows_eligibility P d rows joined separate h

/-- the joined record's pairs are a subset of the two parts' pairs, it keeps the ids,
    lengths and strand of the first part, and it is a valid matching with ≥ 1 pair -/
theorem C08_join_subset (P : Params) (a b j : Row) (h : joinRows P a b = .ok (some j)) :
    (∀ p ∈ j.pairs, p ∈ a.pairs ∨ p ∈ b.pairs) ∧
    j.queryId = a.queryId ∧ j.referenceId = a.referenceId ∧ j.rev = a.rev ∧
    j.queryLength = a.queryLength ∧ j.referenceLength = a.referenceLength ∧
    j.pairs ≠ [] ∧ ValidMatching j.rev (sitePairs j.pairs) :=
  Coma.Proofs.joinRows_subset P a b j h

set_option linter.unusedVariables false in  -- `hS` is part of the statement; the proof does not need it
/-- when each part is one factory-like segment and the parts do not interleave (every pair AND
    every unpaired position of the earlier part lies before the later part's first pair on both
    maps), the joined record is exactly the union.  Without `hU` (unpaired positions too) the
    statement is false: `Coma.Proofs.Modes.joinRows_union_false`. -/
theorem C08_join_union_partial (P : Params) (a b : Row) (sa sb : Seg) (pa pb : Pr)
    (ha : a.segments = [sa]) (hb : b.segments = [sb])
    (hpa : sa.pairs.head? = some pa) (hpb : sb.pairs.head? = some pb) (hlt : pa.r.pos < pb.r.pos)
    (hLa : LeftOK sa) (hRb : RightOK sb) (hS : StrictCoords sa sb) (hsep : Separated sa sb)
    (hU : ∀ x ∈ sa.items, x.isPair = false → x.lessOnBoth pb = true)
    (hv : (Row.create P [sa, sb] a.queryId a.referenceId a.queryLength a.referenceLength a.rev).isOneToOneAndCollinear = true) :
    ∃ j, joinRows P a b = .ok (some j) ∧ j.pairs = sa.pairs ++ sb.pairs :=
  Coma.Proofs.joinRows_union P a b sa sb pa pb ha hb hpa hpb hlt hLa hRb hsep hU hv

/-- only `segments[0]` of each part enters the join (F8): the union of the parts is the valid
    matching (1,1)…(4,4),(6,6),(7,7) but the joined record has lost (3,3),(4,4) -/
theorem C08_join_drops_segments_counterexample :
    ∃ j, joinRows ⟨1000, 1, -250, 1500, 1000, 1200⟩
      { (default : Row) with segments := [⟨0, [.pair ⟨⟨1, 10⟩, ⟨1, 10⟩, 0, 0⟩, .pair ⟨⟨2, 20⟩, ⟨2, 20⟩, 0, 0⟩]⟩,
                                           ⟨0, [.pair ⟨⟨3, 30⟩, ⟨3, 30⟩, 0, 0⟩, .pair ⟨⟨4, 40⟩, ⟨4, 40⟩, 0, 0⟩]⟩] }
      { (default : Row) with segments := [⟨0, [.pair ⟨⟨6, 60⟩, ⟨6, 60⟩, 0, 0⟩, .pair ⟨⟨7, 70⟩, ⟨7, 70⟩, 0, 0⟩]⟩] } = .ok (some j) ∧
      sitePairs j.pairs = [(1, 1), (2, 2), (6, 6), (7, 7)] :=
  Coma.Proofs.Modes.ex_of_opt (by decide +kernel)

/-- the join is a cut, not a union (KF-d): the parts (1,1),(2,2),(4,4) [label 3 unpaired on both maps]
    and (2,2),(3,3),(5,5) [label 4 unpaired] interleave; their union (1,1)…(5,5) is a valid matching
    but the joined record has lost (4,4).  Replayed on the real code by the `JOINROWS` operation. -/
theorem C08_join_cuts_interleaving_counterexample :
    (joinRows ⟨1000, 1, -250, 1500, 1000, 1200⟩
      { (default : Row) with segments := [⟨0, [.pair ⟨⟨1, 10⟩, ⟨1, 10⟩, 0, 0⟩, .pair ⟨⟨2, 20⟩, ⟨2, 20⟩, 0, 0⟩, .uref ⟨3, 30⟩, .uqry ⟨3, 30⟩ 0, .pair ⟨⟨4, 40⟩, ⟨4, 40⟩, 0, 0⟩]⟩] }
      { (default : Row) with segments := [⟨0, [.pair ⟨⟨2, 20⟩, ⟨2, 20⟩, 0, 0⟩, .pair ⟨⟨3, 30⟩, ⟨3, 30⟩, 0, 0⟩, .uref ⟨4, 40⟩, .uqry ⟨4, 40⟩ 0, .pair ⟨⟨5, 50⟩, ⟨5, 50⟩, 0, 0⟩]⟩] }).toOption.map
        (Option.map fun j => sitePairs j.pairs) = some (some [(1, 1), (2, 2), (3, 3), (5, 5)]) := by
  decide +kernel

/-- what the unrepaired join did (F7): two parts placing the same query labels at two reference
    loci were joined into a record that lists query label 3 twice -/
theorem C08_unchecked_join_counterexample :
    ∃ j, joinRowsUnchecked ⟨1000, 1, -250, 1500, 1000, 1200⟩
      { (default : Row) with segments := [⟨0, [.pair ⟨⟨1, 10⟩, ⟨2, 20⟩, 0, 0⟩, .pair ⟨⟨2, 20⟩, ⟨3, 30⟩, 0, 0⟩, .pair ⟨⟨3, 30⟩, ⟨4, 40⟩, 900, 0⟩]⟩] }
      { (default : Row) with segments := [⟨50, [.pair ⟨⟨6, 60⟩, ⟨1, 10⟩, 900, 0⟩, .pair ⟨⟨7, 70⟩, ⟨2, 20⟩, 900, 0⟩, .pair ⟨⟨8, 80⟩, ⟨3, 30⟩, 0, 0⟩]⟩] } = .ok j ∧
      sitePairs j.pairs = [(1, 2), (2, 3), (8, 3)] ∧
      j.isOneToOneAndCollinear = false :=
  Coma.Proofs.Modes.ex_of_ok (by decide +kernel)

end Coma.Props
