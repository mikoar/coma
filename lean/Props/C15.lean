/-
  Props/C15.lean — PROPERTY THEOREMS for C15 (conflict resolution only trims inside the overlap
  and leaves no shared label).  Statements, proved by reference to the theorems of Proofs/Conflict.lean
  (one step), Proofs/ConflictAll.lean (the consecutive pass), Proofs/Compose.lean and Proofs/Translate.lean; the two
  counterexamples by evaluation of their closed terms.

  `resolvePairB` models `checkForConflicts(...).resolveConflict()` for one (left, right) pair
  (src/alignment/segments.py:51-69, 135-141, 186-246), `resolveFromB` the consecutive in-place
  pass (src/alignment/segment_with_resolved_conflicts.py:19-24); the `Branch` value names the
  path taken (emptyLeft / noOverlap / index0 / indexN / interior / dropRight / dropLeft).

  FULL STATEMENT of the property (kept visible): "afterwards no two segments share a reference
  or query label or cross each other".  It is FALSE of the unchanged code — see the two
  `…_counterexample` theorems (F5: neighbours of an emptied chain member are never compared;
  F6: the interior index merge assumes the i-th label of both conflict regions is the same
  label).  What is proved instead is `C15_step_separated_partial` / `C15_adjacent_separated_partial`:
  separation in every branch except the interior index merge, and for adjacent final segments.
-/
import Props.Defs
import Proofs.Conflict
import Proofs.ConflictAll
import Proofs.Compose
import Proofs.Translate
namespace Coma.Props
open Coma.Spec

/-- never adds, moves or re-scores positions: each result is a sub-list (order kept) of its own
    input segment, same peak; the score is by definition the sum of what is left -/
theorem C15_sublist (P : Params) (L R l r : Seg) (b : Branch) (h : resolvePairB P L R = .ok (l, r, b)) :
    l.items.Sublist L.items ∧ r.items.Sublist R.items ∧ l.peak = L.peak ∧ r.peak = R.peak :=
  Coma.Proofs.resolve_sublist h

theorem C15_score (P : Params) (s : Seg) : s.score P = sumScores P s.items := rfl

/-- contiguity: the left result is a prefix of the left input, the right result a suffix of the
    right input (only the overlap region at the junction is trimmed) -/
theorem C15_subrun (P : Params) (L R l r : Seg) (b : Branch) (h : resolvePairB P L R = .ok (l, r, b))
    (hL : LeftOK L) (hR : RightOK R) :
    l.items <+: L.items ∧ r.items <:+ R.items :=
  Coma.Proofs.resolve_subrun h hL hR

/-- positions of the earlier segment before the later one's first pair on both maps are kept,
    and positions of the later segment from its first pair that lies after the earlier one's
    last pair on both maps onwards are kept -/
theorem C15_keeps_outside (P : Params) (L R l r : Seg) (b : Branch) (h : resolvePairB P L R = .ok (l, r, b))
    (hL : LeftOK L) (hR : RightOK R) (cs ce : Pr)
    (hcs : R.pairs.head? = some cs) (hce : L.pairs.getLast? = some ce) :
    (L.items.takeWhile (fun p => p.lessOnBoth cs)) <+: l.items ∧
    (R.items.dropWhile (fun p => !p.isPair || p.leqAny ce)) <:+ r.items :=
  Coma.Proofs.resolve_keeps_outside h hL hR hcs hce

/-- one step leaves the two segments separated in every branch except the interior index merge -/
theorem C15_step_separated_partial (P : Params) (L R l r : Seg) (b : Branch)
    (h : resolvePairB P L R = .ok (l, r, b)) (hL : LeftOK L) (hR : RightOK R) (hS : StrictCoords L R)
    (hb : b ≠ Branch.interior) : Separated l r :=
  Coma.Proofs.resolve_separated h hL hR hS hb

/-- the interior index merge can leave a query label in both segments (F6): two reverse-strand
    segments of peaks 9 and 0; the cut at merge index 1 of 2 keeps (3,2) on the left and (5,2)
    on the right -/
theorem C15_interior_counterexample :
    ∃ l r, resolvePairB ⟨10, 2, -1, 1, 15, 5⟩
        ⟨0, [.pair ⟨⟨3, 7⟩, ⟨2, 7⟩, 0, 0⟩, .pair ⟨⟨4, 8⟩, ⟨1, 8⟩, 0, 0⟩]⟩
        ⟨9, [.pair ⟨⟨4, 8⟩, ⟨3, 0⟩, 1, 0⟩, .pair ⟨⟨5, 16⟩, ⟨2, 7⟩, 0, 0⟩]⟩ = .ok (l, r, Branch.interior) ∧
      sharesLabel l r = true := by
  refine ⟨⟨0, [.pair ⟨⟨3, 7⟩, ⟨2, 7⟩, 0, 0⟩]⟩, ⟨9, [.pair ⟨⟨5, 16⟩, ⟨2, 7⟩, 0, 0⟩]⟩, ?_, ?_⟩
  · decide +kernel
  · decide +kernel

/-- the whole pass: every result is a contiguous sub-run of the corresponding chain member -/
theorem C15_subrun_all (P : Params) (c : Seg) (cs out : List Seg) (h : resolveFrom P c cs = .ok out)
    (hF : ∀ s ∈ c :: cs, FactoryLike s) :
    Forall2 (fun o i => o.items <:+: i.items ∧ o.peak = i.peak) out (c :: cs) :=
  Coma.Proofs.resolveFrom_subrun h hF

/-- the whole pass never raises on factory-like segments -/
theorem C15_pass_total (P : Params) (c : Seg) (cs : List Seg) (hF : ∀ s ∈ c :: cs, FactoryLike s) :
    ∃ out, resolveFrom P c cs = .ok out :=
  Coma.Proofs.resolveFrom_total P c cs hF

/-- adjacent final segments are separated when no step took the interior branch -/
theorem C15_adjacent_separated_partial (P : Params) (c : Seg) (cs out : List Seg) (bs : List Branch)
    (h : resolveFromB P c cs = .ok (out, bs)) (hF : ∀ s ∈ c :: cs, FactoryLike s)
    (hS : ∀ a ∈ c :: cs, ∀ b ∈ c :: cs, StrictCoords a b) (hb : ∀ b ∈ bs, b ≠ Branch.interior) :
    Consec Separated out :=
  Coma.Proofs.resolveFrom_adjacent_separated h hF hS hb

/-- … and then ALL final segments are pairwise separated (no shared label, no crossing between ANY two of them),
    provided every member still keeps a pair: separation is transitive through a member that keeps a pair. The two
    hypotheses are exactly what the known findings violate — KF-b (an interior index merge) and KF-a (a member between
    two others that is emptied or left pair-less) -/
theorem C15_global_separated_partial (P : Params) (c : Seg) (cs out : List Seg) (bs : List Branch)
    (h : resolveFromB P c cs = .ok (out, bs)) (hF : ∀ s ∈ c :: cs, FactoryLike s)
    (hS : ∀ a ∈ c :: cs, ∀ b ∈ c :: cs, StrictCoords a b) (hb : ∀ b ∈ bs, b ≠ Branch.interior)
    (hkeep : ∀ s ∈ out, s.pairs ≠ []) :
    out.Pairwise Separated :=
  Coma.Proofs.resolveFrom_all_separated P c cs out bs h hF hS hb hkeep

/-- neighbours of an emptied chain member are never compared (F5): three chain members, the
    middle one is emptied, its neighbours keep query label 3 -/
theorem C15_emptied_middle_counterexample :
    ∃ out bs, resolveFromB ⟨10, 1, -3, 2, 10, 12⟩
        ⟨2, [.pair ⟨⟨1, 0⟩, ⟨3, 0⟩, 2, 0⟩, .uqry ⟨2, 1⟩ 2, .pair ⟨⟨2, 9⟩, ⟨1, 5⟩, -2, 0⟩]⟩
        [⟨4, [.pair ⟨⟨2, 9⟩, ⟨1, 5⟩, 0, 0⟩]⟩,
         ⟨11, [.pair ⟨⟨2, 9⟩, ⟨3, 0⟩, 2, 0⟩, .uqry ⟨2, 1⟩ 11, .pair ⟨⟨3, 17⟩, ⟨1, 5⟩, -1, 0⟩]⟩] = .ok (out, bs) ∧
      (∀ b ∈ bs, b ≠ Branch.interior) ∧
      (match out with | [a, _, c] => sharesLabel a c | _ => false) = true := by
  refine ⟨[⟨2, [.pair ⟨⟨1,0⟩,⟨3,0⟩,2,0⟩, .uqry ⟨2,1⟩ 2]⟩, ⟨4, []⟩,
      ⟨11, [.pair ⟨⟨2,9⟩,⟨3,0⟩,2,0⟩, .uqry ⟨2,1⟩ 11, .pair ⟨⟨3,17⟩,⟨1,5⟩,-1,0⟩]⟩],
    [.index0, .dropLeft], ?_, ?_, ?_⟩
  · decide +kernel
  · decide
  · decide +kernel

/-! ### the resolver does not depend on the magnitude of the reference coordinates -/

/-- pairing, scoring and cutting into segments commute with a translation of the reference -/
theorem C15_segments_translation (P : Params) (ref qry : OMap) (rev : Bool) (it : Int) (peaks : List Int) (d : Int) :
    segmentsOfPeaks P (Coma.Proofs.shiftRef d ref) qry rev it (peaks.map (· + d))
      = (segmentsOfPeaks P ref qry rev it peaks).map (List.map (Coma.Proofs.shiftSeg d)) :=
  Coma.Proofs.segmentsOfPeaks_shift P ref qry rev it peaks d

/-- chaining and conflict resolution of the segments of a candidate commute with a translation of the reference by any
    `d`: the same segments are chained, the same positions are dropped (a comparison with a tolerance relative to the
    coordinate breaks this) -/
theorem C15_resolution_translation (P : Params) (C : ChainCfg) (ref qry : OMap) (rev : Bool) (it : Int) (peaks : List Int)
    (segs : List Seg) (h : segmentsOfPeaks P ref qry rev it peaks = .ok segs) (d : Int) :
    resolveConflicts P C (segs.map (Coma.Proofs.shiftSeg d)) = (resolveConflicts P C segs).map (List.map (Coma.Proofs.shiftSeg d)) :=
  Coma.Proofs.resolveConflicts_shift_factory P C segs d (Coma.Proofs.segmentsOfPeaks_factory P ref qry rev it peaks segs h)

/-- for ARBITRARY segment lists the claim is false: in front of an empty segment the resolver compares reference labels
    with the null pair (label 0 at coordinate 0), i.e. reads the sign of a coordinate; a non-positive-score segment at
    coordinate 5 is kept, the same segment at coordinate −5 is emptied.  (Segments cut by the factory have positive
    suffix scores and are returned unchanged in front of an empty segment, whatever that comparison says.) -/
theorem C15_translation_null_pair_counterexample :
    ¬ ∀ (P : Params) (C : ChainCfg) (segs : List Seg) (d : Int),
      resolveConflicts P C (segs.map (Coma.Proofs.shiftSeg d)) = (resolveConflicts P C segs).map (List.map (Coma.Proofs.shiftSeg d)) :=
  Coma.Proofs.resolveConflicts_shift_false

end Coma.Props
