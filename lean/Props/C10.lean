/-
  Props/C10.lean — PROPERTY THEOREMS for C10 (a query's record is independent of the other
  molecules and of file order).  Statements, each proved in a few lines from the lemmas of the imported
  Proofs/ modules or by reference to the theorem there.

  Models: `executeSingle` (each query aligned independently, src/workflow_coordinator.py:37-48),
  `filterBestPerQuery`, `readCmap` (id filters applied while reading, src/parsers/cmap_reader.py:23-30,
  src/program.py:53-59), `runProgram`.  Quantifier: all inputs, all subsets / permutations of the
  query molecules, all row permutations of the CMAP files, all id selections.
-/
import Props.Defs
import Proofs.Restrict
import Proofs.SeedTable
import Proofs.SeededRun
namespace Coma.Props
open Coma.Spec

/-- the first pass over a list of queries is the concatenation of the first passes over its
    parts: a query's row cannot depend on the other molecules (adding / removing queries) -/
theorem C10_per_query (cfg : Cfg) (refs : List OMap) (t : SeedTable) (qs1 qs2 : List OMap) (it : Int) :
    executeSingle cfg refs t (qs1 ++ qs2) it =
      (do let a ← executeSingle cfg refs t qs1 it
          let b ← executeSingle cfg refs t qs2 it
          pure (a ++ b)) :=
  Coma.Proofs.executeSingle_append cfg refs t qs1 qs2 it

/-- every first-pass row belongs to one of the given queries, in query order -/
theorem C10_rows_of_queries (cfg : Cfg) (refs : List OMap) (t : SeedTable) (qs : List OMap) (it : Int) (rows : List Row)
    (h : executeSingle cfg refs t qs it = .ok rows) :
    (rows.map (·.queryId)).Sublist (qs.map (·.id)) :=
  Coma.Proofs.executeSingle_ids cfg refs t qs it rows h

/-- reordering the queries only reorders the first-pass rows … -/
theorem C10_query_perm_rows (cfg : Cfg) (refs : List OMap) (t : SeedTable) (qs qs' : List OMap) (it : Int)
    (rows rows' : List Row) (hp : qs.Perm qs')
    (h : executeSingle cfg refs t qs it = .ok rows) (h' : executeSingle cfg refs t qs' it = .ok rows') :
    rows.Perm rows' := by
  obtain ⟨_, rfl⟩ := (Coma.Proofs.executeSingle_ok_iff cfg refs t qs it rows).1 h
  obtain ⟨_, rfl⟩ := (Coma.Proofs.executeSingle_ok_iff cfg refs t qs' it rows').1 h'
  exact hp.filterMap _

/-- … and the written file does not change (single-pass mode; the per-query filter sorts by id) -/
theorem C10_query_perm (cfg : Cfg) (refs : List OMap) (t : SeedTable) (qs qs' : List OMap) (it : Int)
    (o o' : Output) (hp : qs.Perm qs') (hn : (qs.map (·.id)).Nodup)
    (h : execute cfg .single refs t qs it = .ok o) (h' : execute cfg .single refs t qs' it = .ok o') :
    o.main = o'.main :=
  congrArg Output.main (Coma.Proofs.execute_perm cfg .single refs t qs qs' it hp hn o o' h h')

theorem C10_filter_perm (rows rows' : List Row) (hp : rows.Perm rows') (hn : (rows.map (·.queryId)).Nodup) :
    filterBestPerQuery rows = filterBestPerQuery rows' :=
  Coma.Proofs.Select.fbq_ext _ _ fun id => Coma.Proofs.class_perm Coma.Proofs.Select.qid id hp hn

/-- restricting a run with -qId / -rId gives exactly the run on files physically restricted to
    those molecules (every file of every mode) -/
theorem C10_id_filter (cfg : Cfg) (mode : Mode) (refRows qryRows : List CRow) (refIds qryIds : List Int)
    (t : SeedTable) (it : Int) :
    runProgram cfg mode refRows qryRows refIds qryIds t it =
      runProgram cfg mode
        (if refIds.isEmpty then refRows else refRows.filter (fun r => refIds.contains r.id))
        (if qryIds.isEmpty then qryRows else qryRows.filter (fun r => qryIds.contains r.id)) [] [] t it :=
  Coma.Proofs.runProgram_congr (Coma.Proofs.readCmap_selected 1 refRows refIds) (Coma.Proofs.readCmap_selected 1 qryRows qryIds)

/-- the order of rows — hence of molecules, references included — inside both CMAP files is
    irrelevant to every file of every mode -/
theorem C10_row_perm (cfg : Cfg) (mode : Mode) (refRows refRows' qryRows qryRows' : List CRow)
    (refIds qryIds : List Int) (t : SeedTable) (it : Int)
    (hr : refRows.Perm refRows') (hq : qryRows.Perm qryRows')
    (h1 : ∀ id, (refRows.filter (fun r => r.id = id ∧ r.chan = 0)).length ≤ 1)
    (h2 : ∀ id, (qryRows.filter (fun r => r.id = id ∧ r.chan = 0)).length ≤ 1) :
    runProgram cfg mode refRows qryRows refIds qryIds t it =
    runProgram cfg mode refRows' qryRows' refIds qryIds t it :=
  Coma.Proofs.runProgram_congr (Coma.Proofs.readCmap_perm 1 refRows refRows' refIds hr h1)
    (Coma.Proofs.readCmap_perm 1 qryRows qryRows' qryIds hq h2)

/-- MULTI-PASS per-query independence: every file of every output mode, restricted to the records of
    one query, is what a run on that query alone writes (query ids pairwise distinct).  So adding or
    removing other molecules cannot change a query's records in any file. -/
theorem C10_execute_restrict (cfg : Cfg) (mode : Mode) (refs : List OMap) (t : SeedTable) (qs : List OMap) (it : Int)
    (q : OMap) (hq : q ∈ qs) (hn : (qs.map (·.id)).Nodup) (o : Output)
    (h : execute cfg mode refs t qs it = .ok o) :
    execute cfg mode refs t [q] it = .ok (restrictOutput o q.id) :=
  Coma.Proofs.execute_restrict_eq cfg mode refs t qs it q hq hn o h

/-- a molecule that has no seed at all (no correlation peak: longer than every reference, too few
    labels) can stand anywhere in the query list: removing it changes no file of any mode (what a
    positional pairing of rows with molecules would break) -/
theorem C10_drop_unalignable (cfg : Cfg) (mode : Mode) (refs : List OMap) (t : SeedTable) (qs1 qs2 : List OMap) (q : OMap) (it : Int)
    (hseed : t.lookup q.key = []) (hn : ((qs1 ++ q :: qs2).map (·.id)).Nodup) :
    execute cfg mode refs t (qs1 ++ q :: qs2) it = execute cfg mode refs t (qs1 ++ qs2) it :=
  Coma.Proofs.execute_drop_unalignable cfg mode refs t qs1 qs2 q it hseed hn

/-- the order of the molecules in the query list is irrelevant to every file of EVERY mode -/
theorem C10_query_perm_all_modes (cfg : Cfg) (mode : Mode) (refs : List OMap) (t : SeedTable) (qs qs' : List OMap) (it : Int)
    (hp : qs.Perm qs') (hn : (qs.map (·.id)).Nodup) (o o' : Output)
    (h : execute cfg mode refs t qs it = .ok o) (h' : execute cfg mode refs t qs' it = .ok o') :
    o = o' :=
  Coma.Proofs.execute_perm cfg mode refs t qs qs' it hp hn o o' h h'

/-! ### with the secondary seeding stage inside the model (`Coma/Seeding.lean`) -/

/-- the seeds of a molecule are derived from its own entry of the primary-peak table, its own labels and
    the references only: the derived table is computed entry by entry … -/
theorem C10_seed_table_entrywise (c : SecCfg) (refs qs : List OMap) (pt : PTable) :
    deriveTable c refs qs pt =
      (pt.mapM (Coma.Proofs.deriveEntry c refs qs)).map fun es => { table := es.map (·.1), status := es.map (·.2) } :=
  Coma.Proofs.deriveTable_eq_mapM c refs qs pt

/-- … an entry does not change when other molecules are added, removed or reordered … -/
theorem C10_seed_entry_other_molecules (c : SecCfg) (refs qs qs' : List OMap) (e : QKey × List PSeed)
    (h : qs.find? (fun q => q.id = e.1.id) = qs'.find? (fun q => q.id = e.1.id)) :
    Coma.Proofs.deriveEntry c refs qs e = Coma.Proofs.deriveEntry c refs qs' e :=
  Coma.Proofs.deriveEntry_congr c refs qs qs' e h

/-- … and what the per-query worker looks up under a key is that entry and nothing else -/
theorem C10_seed_lookup (c : SecCfg) (refs qs : List OMap) (pt : PTable) (d : Derived) (k : QKey)
    (h : deriveTable c refs qs pt = .ok d) :
    d.table.lookup k =
      match pt.find? (fun e => e.1 = k) with
      | none   => []
      | some e => match Coma.Proofs.deriveEntry c refs qs e with
        | .ok r    => r.1.2
        | .error _ => [] :=
  Coma.Proofs.deriveTable_lookup c refs qs pt d k h

/-- the whole derived seed table is the same for every order of the query molecules (distinct ids) -/
theorem C10_seed_table_query_perm (c : SecCfg) (refs qs qs' : List OMap) (pt : PTable) (hp : qs.Perm qs') (hn : (qs.map (·.id)).Nodup) :
    deriveTable c refs qs' pt = deriveTable c refs qs pt := by
  rw [Coma.Proofs.deriveTable_eq_mapM, Coma.Proofs.deriveTable_eq_mapM]
  have : Coma.Proofs.deriveEntry c refs qs' = Coma.Proofs.deriveEntry c refs qs := by
    funext e
    exact Coma.Proofs.deriveEntry_congr c refs qs' qs e (Coma.Proofs.find?_id_perm qs qs' e.1.id hp hn)
  rw [this]

/-! ### "references … listed in a different order" -/

/-- given the seed table, the whole run (every output mode) does not depend on the order in which the references are
    listed (distinct reference ids: C17) -/
theorem C10_reference_order (cfg : Cfg) (mode : Mode) (refs refs' : List OMap) (t : SeedTable) (qs : List OMap) (it : Int)
    (hp : refs.Perm refs') (hn : (refs.map (·.id)).Nodup) :
    execute cfg mode refs' t qs it = execute cfg mode refs t qs it := by
  rw [Coma.Proofs.execute_congr_refs fun i => Coma.Proofs.find?_id_perm refs refs' i hp hn]

/-- nor does the secondary seeding stage: the seed table derived from the selected primary peaks is the same -/
theorem C10_seed_table_reference_order (c : SecCfg) (refs refs' qs : List OMap) (pt : PTable)
    (hp : refs.Perm refs') (hn : (refs.map (·.id)).Nodup) :
    deriveTable c refs' qs pt = deriveTable c refs qs pt :=
  Coma.Proofs.deriveTable_ref_perm c refs refs' qs pt hp hn

/-- `PeaksSelector.selectPeaks` over the peaks of all references: with pairwise different scores the selected peaks and
    their order do not depend on the order in which the references deliver them (with tied scores the stable sort keeps
    arrival order — then, and only then, the listing order of the references can matter) -/
theorem C10_selection_reference_order {α} (count : Nat) (score : α → Int) (peaks peaks' : List α) (hp : peaks.Perm peaks')
    (hinj : ∀ a ∈ peaks, ∀ b ∈ peaks, score a = score b → a = b) :
    selectPeaks count score peaks' = selectPeaks count score peaks := by
  have heq : isortDesc score peaks' = isortDesc score peaks :=
    (Coma.Proofs.isort_eq_of_perm (fun a => - score a) hp fun a ha b hb h => hinj a ha b hb (by omega)).symm
  unfold selectPeaks
  rw [heq]

/-- the tie case is real: two peaks with one score, `count = 1` — the first delivered wins -/
example : selectPeaks 1 (fun (p : Int × Int) => p.2) [(1, 5), (2, 5)] ≠ selectPeaks 1 (fun (p : Int × Int) => p.2) [(2, 5), (1, 5)] := by decide

end Coma.Props
