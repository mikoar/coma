/-
  Props/C18.lean — PROPERTY THEOREMS for C18 (XMAP written by COMA reads back to the same
  alignments).  Statements, proved by reference to the theorems of Proofs/Xmap.lean
  (`C18_nat_roundtrip` from its lemmas).

  `XRow.fields` models the writer's data line (src/parsers/xmap_reader.py:63-80: column order,
  `{:.1f}` / `{:.2f}`, `(r,q)(r,q)…`), `readXRow?` the reader on a tokenised line
  (xmap_reader.py:21-33, 82-92; xmap_alignment_pair_parser.py; bionano_alignment.py:24-41:
  `int()` truncation).  pandas' tokeniser is not modelled (a line is its list of tab-separated
  fields).  Quantifier: every record (any ids, coordinates, confidence, both strands, any
  HitEnum string, any non-empty pair list), any number of records including zero.
-/
import Props.Defs
import Proofs.Xmap
namespace Coma.Props

theorem C18_nat_roundtrip (n : Nat) : parseNat? (renderNat n).toList = some n := by
  rw [Coma.Proofs.Xmap.renderNat_toList, Coma.Proofs.Xmap.parseNat_natChars]

theorem C18_int_roundtrip (i : Int) : parseInt? (renderInt i).toList = some i :=
  Coma.Proofs.int_roundtrip i

/-- `{:.1f}` of an integral coordinate reads back (after `int()`) as that integer -/
theorem C18_coord_roundtrip (x : Int) : parseTrunc? (renderFixed 1 (x * 10)).toList = some x :=
  Coma.Proofs.coord_roundtrip x

/-- `{:.df}` then `int()` truncates toward zero -/
theorem C18_fixed_trunc (d : Nat) (v : Int) : parseTrunc? (renderFixed d v).toList = some (Int.tdiv v (10 ^ d)) :=
  Coma.Proofs.fixed_trunc d v

/-- confidence survives to two decimals -/
theorem C18_conf_roundtrip (c : Int) : parseHundredths? (renderFixed 2 c).toList = some c :=
  Coma.Proofs.conf_roundtrip c

/-- the Alignment column round-trips for every non-empty pair list, order preserved -/
theorem C18_pairs_roundtrip (ps : List (Int × Int)) (hne : ps ≠ []) :
    parsePairs? (renderPairs ps).toList = some ps :=
  Coma.Proofs.pairs_roundtrip ps hne

/-- what the reader must return for a written record -/
def _root_.Coma.XRow.asRead (x : XRow) : XRead :=
  { entryId := x.entryId, qid := x.qid, rid := x.rid, qStart := x.qStart, qEnd := x.qEnd,
    rStart := x.rStart, rEnd := x.rEnd, rev := x.rev, conf100 := x.conf100, hitEnum := x.hitEnum,
    qLen := x.qLen, rLen := x.rLen, pairs := x.pairs }

/-- one record: same ids, orientation, HitEnum and label pairs; coordinates and lengths equal
    to the written values; confidence to two decimals -/
theorem C18_row_roundtrip (x : XRow) (hne : x.pairs ≠ []) : readXRow? x.fields = some x.asRead :=
  Coma.Proofs.row_roundtrip x hne

/-- a whole file: one alignment per record, in order — including the file with zero records -/
theorem C18_file_roundtrip (xs : List XRow) (hne : ∀ x ∈ xs, x.pairs ≠ []) :
    readXmap? (xs.map XRow.fields) = some (xs.map XRow.asRead) :=
  Coma.Proofs.file_roundtrip xs hne

theorem C18_empty_file : readXmap? [] = some [] := rfl

/-- non-vacuity -/
example : (⟨3, 12, 1, 0, 54321, 1000, 60000, true, 123456, "3M1D2M", 60001, 999999, false, [(4, 9), (5, 8)]⟩ : XRow).line =
    "3\t12\t1\t0.0\t54321.0\t1000.0\t60000.0\t-\t1234.56\t3M1D2M\t60001.0\t999999.0\tFalse\t1\t(4,9)(5,8)" := by
  decide +kernel

end Coma.Props
