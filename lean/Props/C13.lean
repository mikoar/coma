/-
  Props/C13.lean — PROPERTY THEOREMS for C13 (segments are maximal positive-scoring runs that
  respect both thresholds).  Statements only; proofs live in Proofs/SegFactory.lean and
  Proofs/FirstRun.lean.

  Quantifier: every score list of every length, every minScore > 0, every
  breakSegmentThreshold ≥ 0.  `scanRanges` is the model of
  `_AlignmentSegmentBuilder.getSegments` (src/alignment/segments_factory.py:41-73).
-/
import Props.Defs
import Proofs.SegFactory
import Proofs.FirstRun
set_option linter.unusedVariables false  -- `hms` (and for (a)–(e) also `hb`) are part of the statements, not needed by the proofs
namespace Coma.Props
open Coma.Spec Coma.Proofs.Scan

/-- (a) ranges are non-empty, inside the list, in order, disjoint and separated by at least one
    skipped position -/
theorem C13_ordered_separated (ms bst : Int) (scores : List Int) (hms : 0 < ms) (hb : 0 ≤ bst) :
    (∀ r ∈ scanRanges ms bst scores, r.start < r.stop ∧ r.stop ≤ scores.length) ∧
    (scanRanges ms bst scores).Pairwise (fun r1 r2 => r1.stop < r2.start) :=
  ⟨fun r hr => ⟨((scan_all ms bst scores).1 r hr).1.lt, ((scan_all ms bst scores).1 r hr).1.le⟩,
    (scan_all ms bst scores).2⟩

/-- (b) every segment starts and ends on a positively scored position -/
theorem C13_ends_positive (ms bst : Int) (scores : List Int) (hms : 0 < ms) (hb : 0 ≤ bst) :
    ∀ r ∈ scanRanges ms bst scores,
      0 < scores.getD r.start 0 ∧ 0 < scores.getD (r.stop - 1) 0 :=
  fun r hr => ⟨((scan_all ms bst scores).1 r hr).1.pos_start, ((scan_all ms bst scores).1 r hr).1.pos_end⟩

/-- (c) the recorded score is the sum of the members and reaches minScore -/
theorem C13_score (ms bst : Int) (scores : List Int) (hms : 0 < ms) (hb : 0 ≤ bst) :
    ∀ r ∈ scanRanges ms bst scores, r.score = sumRange scores r.start r.stop ∧ ms ≤ r.score :=
  fun r hr => ⟨((scan_all ms bst scores).1 r hr).1.score_eq, ((scan_all ms bst scores).1 r hr).2.1⟩

/-- (d) every running prefix sum is positive and stays above every *earlier* prefix sum minus
    the break threshold (for bst = 0: prefix sums strictly increase) -/
theorem C13_prefix (ms bst : Int) (scores : List Int) (hms : 0 < ms) (hb : 0 ≤ bst) :
    ∀ r ∈ scanRanges ms bst scores, ∀ k, r.start < k → k ≤ r.stop →
      0 < sumRange scores r.start k ∧
      ∀ j, r.start < j → j < k → sumRange scores r.start j - bst < sumRange scores r.start k :=
  fun r hr => ((scan_all ms bst scores).1 r hr).1.pre

/-- (e) the segment ends at the first position where its maximum is reached -/
theorem C13_first_max (ms bst : Int) (scores : List Int) (hms : 0 < ms) (hb : 0 ≤ bst) :
    ∀ r ∈ scanRanges ms bst scores, ∀ k, r.start < k → k < r.stop →
      sumRange scores r.start k < r.score :=
  fun r hr => ((scan_all ms bst scores).1 r hr).1.first

/-- (f) it cannot be extended to the right to a higher score without first hitting the break
    condition (prefix ≤ 0 or ≤ maximum − threshold) -/
theorem C13_not_extendable (ms bst : Int) (scores : List Int) (hms : 0 < ms) (hb : 0 ≤ bst) :
    ∀ r ∈ scanRanges ms bst scores, ∀ m, r.stop < m → m ≤ scores.length →
      r.score < sumRange scores r.start m →
      ∃ k, r.stop < k ∧ k < m ∧ sumRange scores r.start k ≤ max 0 (r.score - bst) :=
  fun r hr => ((scan_all ms bst scores).1 r hr).2.2 hb

/-- (g) the factory returns the single empty segment exactly when the scan found no run;
    otherwise every returned segment is the slice of the position list named by its range,
    with score = sum of its members ≥ minScore -/
theorem C13_empty_iff (P : Params) (peak : Int) (xs : List APos) :
    (scanRanges P.minScore P.bst (xs.map (APos.score P)) = [] →
        getSegments P peak xs = [⟨peak, []⟩]) ∧
    (scanRanges P.minScore P.bst (xs.map (APos.score P)) ≠ [] →
        getSegments P peak xs =
          (scanRanges P.minScore P.bst (xs.map (APos.score P))).map
            (fun r => ⟨peak, (xs.drop r.start).take (r.stop - r.start)⟩)) :=
  by
  unfold getSegments
  refine ⟨fun h => by rw [h], fun h => ?_⟩
  split
  · contradiction
  · rfl

theorem C13_segment_score (P : Params) (peak : Int) (xs : List APos) (hms : 0 < P.minScore) (hb : 0 ≤ P.bst) :
    ∀ r ∈ scanRanges P.minScore P.bst (xs.map (APos.score P)),
      (⟨peak, (xs.drop r.start).take (r.stop - r.start)⟩ : Seg).score P = r.score :=
  fun r hr => by
  rw [Seg.score, Coma.Proofs.sumScores_run, ((scan_all _ _ _).1 r hr).1.score_eq]

/-- non-vacuity: the default thresholds on a concrete score list produce two segments -/
example : scanRanges 1000 1200 [1000, 1000, -250, -250, -250, -250, -250, 1000, 500] =
    [⟨0, 2, 2000⟩, ⟨7, 9, 1500⟩] := by decide

/-- completeness at the end of the list: a current run that reaches minScore when the positions
    run out is reported (the final flush) -/
theorem C13_flush_complete (ms bst : Int) (scores : List Int) :
    let st := scanFrom ms bst {} 0 scores
    ∀ r, st.cur = some r → ms ≤ r.score → r ∈ scanRanges ms bst scores := by
  intro st r hc hs
  show r ∈ (st.flush ms).res
  rw [Coma.Proofs.Scan.flush_emit hc hs]
  exact List.mem_append_right _ (List.mem_singleton_self r)

/-- (g), completeness for the FIRST run: from the first positive score on, follow the running sum until the first break
    (sum ≤ 0, or sum ≤ running maximum − threshold); if the maximum reached before that break is at least `minScore`,
    that run — `firstRun`, an executable restatement of the harness oracle — is the first segment the factory reports; in
    particular the result is then not the single empty segment.  (Completeness for LATER runs is not claimed: a pending
    run below `minScore` is not reset at a break, segments_factory.py:63-66.) -/
theorem C13_first_run_complete (ms bst : Int) (scores : List Int) (hb : 0 ≤ bst) (hm : 0 < ms) (r : Rng)
    (h : Coma.Proofs.firstRun ms bst scores = some r) : (scanRanges ms bst scores).head? = some r :=
  Coma.Proofs.scanRanges_first_run ms bst scores hb r h

/-- non-vacuity: the default thresholds; the first run of a list that starts with two unpaired labels -/
example : Coma.Proofs.firstRun 1000 1200 [-250, -250, 1000, 900, -250, 800] = some ⟨2, 6, 2450⟩ := by decide

end Coma.Props
