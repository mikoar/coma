/-
  Props/C16.lean — PROPERTY THEOREMS for C16 (vectorisation, blur and bin-to-bp mapping are
  exact; seeds are the top peaks).  Statements, each proved in a few lines from the lemmas of Proofs/Vector.lean,
  Proofs/Peaks*.lean and Proofs/Translate*.lean or by reference to the theorem there.

  Models: `vectorise` (src/correlation/vectorise.py:7-25), `blur` (lines 28-39),
  `toBp` (src/correlation/optical_map.py:26-28), `selectPeaks`
  (src/correlation/peaks_selector.py:18-21).
  Quantifier: all ascending label lists, all resolutions ≥ 1, all starts (negative too), all
  ends (missing / 0 ⇒ last label), all radii ≥ 0, all peak lists and counts.
-/
import Props.Defs
import Proofs.Vector
import Coma.Corr
import Proofs.Peaks
import Proofs.Peaks_Find
import Proofs.TranslateSec
namespace Coma.Props
open Coma.Spec

/-- the effective end of the window: `end or positions[-1]` -/
def stopEff (positions : List Int) (stop? : Option Int) : Int :=
  match stop? with
  | some e => if e ≠ 0 then e else positions.getLast?.getD 0
  | none   => positions.getLast?.getD 0

/-- every emitted bit i says exactly whether some label lies in
    [start + i·res, start + (i+1)·res) -/
theorem C16_bits (positions : List Int) (res start : Int) (stop? : Option Int) (v : List Nat)
    (hs : Ascending positions) (h : vectorise positions res start stop? = .ok v) :
    ∀ i, i < v.length →
      (v.getD i 0 = 1 ∨ v.getD i 0 = 0) ∧
      (v.getD i 0 = 1 ↔ ∃ p ∈ positions, start + i * res ≤ p ∧ p < start + (i + 1) * res) :=
  Coma.Proofs.vectorise_bits positions res start stop? v hs h

set_option linter.unusedVariables false in  -- `hs` is part of the statement; the proof does not need it
/-- no label between start and end is lost: its bin is inside the vector -/
theorem C16_no_label_lost (positions : List Int) (res start : Int) (stop? : Option Int) (v : List Nat)
    (hs : Ascending positions) (h : vectorise positions res start stop? = .ok v) :
    ∀ p ∈ positions, start ≤ p → p ≤ stopEff positions stop? → ((p - start) / res).toNat < v.length := by
  obtain ⟨hres, -, rfl⟩ := (Coma.Proofs.Vector.vectorise_ok_iff positions res start stop? v).mp h
  intro p hp h1 (h2 : p ≤ Coma.Proofs.stopEff' positions stop?)  -- `stopEff` as Proofs/Vector.lean writes it
  have b := (Coma.Proofs.Vector.bin_spec start res p hres h1).1
  exact (Coma.Proofs.Vector.vecGo_spec res _ hres positions start).2.1 p hp _ b (Or.inr (by omega))

/-- the error cases are exactly: resolution < 1, or no end given and no labels -/
theorem C16_vectorise_ok (positions : List Int) (res start : Int) (stop? : Option Int) :
    (∃ v, vectorise positions res start stop? = .ok v) ↔
      (1 ≤ res ∧ (positions ≠ [] ∨ ∃ e, stop? = some e ∧ e ≠ 0)) :=
  Coma.Proofs.vectorise_ok positions res start stop?

/-- blurring keeps the length and sets bit i exactly when an original bit lies within the radius -/
theorem C16_blur (v w : List Nat) (radius : Int) (h : blur v radius = .ok w) :
    w.length = v.length ∧
    ∀ i, i < v.length →
      (w.getD i 0 = 1 ∨ w.getD i 0 = 0) ∧
      (w.getD i 0 = 1 ↔ ∃ j, j < v.length ∧ v.getD j 0 ≠ 0 ∧ (i : Int) - radius ≤ j ∧ (j : Int) ≤ i + radius) :=
  Coma.Proofs.blur_spec v w radius h

/-- a bin index converts to a coordinate inside the bin and within half a resolution of both
    of its ends (the bin centre) -/
theorem C16_bin_centre (bin res start : Int) (hres : 1 ≤ res) :
    start + bin * res ≤ toBp bin res start ∧ toBp bin res start < start + (bin + 1) * res ∧
    2 * (toBp bin res start - (start + bin * res)) ≤ res ∧
    2 * ((start + (bin + 1) * res - 1) - toBp bin res start) ≤ res :=
  Coma.Proofs.toBp_centre bin res start hres

/-- the seeds kept are the `count` highest-scoring peaks, in descending order (stable) -/
theorem C16_top_n {α} (count : Nat) (score : α → Int) (peaks : List α) :
    (selectPeaks count score peaks).length = min count peaks.length ∧
    ((selectPeaks count score peaks).map score).Pairwise (· ≥ ·) ∧
    ∃ rest, (selectPeaks count score peaks ++ rest).Perm peaks ∧
      ∀ x ∈ selectPeaks count score peaks, ∀ y ∈ rest, score y ≤ score x :=
  Coma.Proofs.selectPeaks_spec count score peaks

/-- per correlation: when a correlation has more peaks than peaksCount exactly the peaksCount
    highest are kept (`createPeaks`, src/correlation/optical_map.py:141-155), each converted to the
    centre of its bin -/
theorem C16_top_n_per_correlation (count res start : Int) (peaks : List (Int × Int)) (_hc : 0 ≤ count)
    (hlt : count < peaks.length) :
    ∃ kept rest : List (Int × Int), createPeaks count res start peaks = kept.map (fun p => (toBp p.1 res start, p.2)) ∧
      kept.length = count.toNat ∧ (kept ++ rest).Perm peaks ∧ ∀ x ∈ kept, ∀ y ∈ rest, y.2 ≤ x.2 := by
  obtain ⟨hlen, _, rest, hperm, hle⟩ := C16_top_n count.toNat (fun (p : Int × Int) => p.2) peaks
  refine ⟨selectPeaks count.toNat (fun (p : Int × Int) => p.2) peaks, rest, ?_, ?_, hperm, hle⟩
  · simp [createPeaks, hlt]
  · rw [hlen]; omega

theorem C16_all_peaks_when_few (count res start : Int) (peaks : List (Int × Int)) (h : ¬ count < peaks.length) :
    createPeaks count res start peaks = peaks.map (fun p => (toBp p.1 res start, p.2)) := by
  simp [createPeaks, h]

/-! ### the secondary seeding stage (`Coma/Peaks.lean`): what the seeds handed to the aligner are -/

/-- `find_peaks` as `refine` calls it returns exactly the midpoints of the local-maximum plateaus whose
    height reaches the threshold and whose prominence is at least a twentieth of the largest sample -/
theorem C16_secondary_peaks (thr : Rat) (x : List Int) (p : Nat) (h : Int) :
    (p, h) ∈ findPeaksSecondary thr x ↔
      (∃ l r, Coma.Proofs.IsPlateau x l r ∧ p = (l + r) / 2) ∧ x[p]? = some h ∧ thr ≤ (h : Rat) ∧
        maxInit0 x ≤ 20 * prominence x p := by
  rw [Coma.Proofs.findPeaksSecondary_iff, Coma.Proofs.localMaxima_iff]

/-- … in ascending order of position -/
theorem C16_secondary_peaks_sorted (thr : Rat) (x : List Int) :
    ((findPeaksSecondary thr x).map (·.1)).Pairwise (· < ·) :=
  Coma.Proofs.findPeaksSecondary_sorted thr x

/-- every seed of the secondary stage is the centre of a bin `k` of the refinement window (which starts
    at `peak − margin`) where the secondary correlation has such a local maximum, with its height -/
theorem C16_seed_is_bin_centre (c : SecCfg) (ref q : OMap) (rev : Bool) (peak : Int) (pk : List (Int × Int))
    (h : refine c ref q rev peak = .ok pk) :
    ∃ corr, refineCorrelation c ref q rev peak = .ok corr ∧
      ∀ e ∈ pk, ∃ k : Nat, (k, e.2) ∈ findPeaksSecondary c.thr (corr.map Int.ofNat) ∧
        e.1 = toBp (k : Int) c.res (peak - c.margin) :=
  Coma.Proofs.refine_sound c ref q rev peak pk h

set_option linter.unusedVariables false in  -- `hk` is part of the statement; the proof does not need it
/-- when more than ten peaks pass, exactly the ten highest become seeds; otherwise all of them do -/
theorem C16_secondary_top (c : SecCfg) (ref q : OMap) (rev : Bool) (peak : Int) (corr : List Nat) (hk : 0 ≤ c.keep)
    (hc : refineCorrelation c ref q rev peak = .ok corr)
    (hn : c.keep < ((findPeaksSecondary c.thr (corr.map Int.ofNat)).length : Int)) :
    ∃ kept rest : List (Nat × Int),
      refine c ref q rev peak = .ok (kept.map fun p => (toBp (p.1 : Int) c.res (peak - c.margin), p.2)) ∧
      kept.length = c.keep.toNat ∧ (kept ++ rest).Perm (findPeaksSecondary c.thr (corr.map Int.ofNat)) ∧
      ∀ a ∈ kept, ∀ b ∈ rest, b.2 ≤ a.2 :=
  Coma.Proofs.refine_top c ref q rev peak corr hc hn

theorem C16_secondary_all_when_few (c : SecCfg) (ref q : OMap) (rev : Bool) (peak : Int) (corr : List Nat)
    (hc : refineCorrelation c ref q rev peak = .ok corr)
    (hn : ¬ c.keep < ((findPeaksSecondary c.thr (corr.map Int.ofNat)).length : Int)) :
    refine c ref q rev peak =
      .ok ((findPeaksSecondary c.thr (corr.map Int.ofNat)).map fun p => (toBp (p.1 : Int) c.res (peak - c.margin), p.2)) :=
  Coma.Proofs.refine_few c ref q rev peak corr hc hn

/-- non-vacuity: a two-label molecule refined against a reference that contains it -/
example : (refine { res := 100, blur := 1, margin := 500, thr := 2, keep := 10 }
            { id := 1, length := 3000, positions := [400, 1000, 1700, 2300] }
            { id := 2, length := 701, positions := [0, 700] } false 1000).toOption = some [(1049, 4)] := by decide +kernel

/-- non-vacuity -/
example : (vectorise [150, 420, 430, 999] 100 100 none).toOption = some [1, 0, 0, 1, 0, 0, 0, 0, 1] := by decide +kernel
example : (blur [0, 0, 1, 0, 0, 0] 1).toOption = some [0, 1, 1, 1, 0, 0] := by decide +kernel

/-! ### the secondary seeds move with the reference -/

/-- Moving the reference and the selected primary peak `d` bp along the chromosome leaves the secondary correlation
    unchanged and moves every secondary seed by exactly `d` (same heights, same order): bins are counted from the window
    start, so nothing depends on the magnitude of the coordinates.  Hypothesis: the window end `peak + |query| + margin`
    is positive before and after — every real run satisfies it (peak ≥ 0, a molecule has positive length). -/
theorem C16_secondary_translation (c : SecCfg) (ref q : OMap) (rev : Bool) (peak d : Int)
    (h0 : 0 < peak + q.length + c.margin) (hd : 0 < peak + d + q.length + c.margin) :
    refine c (Coma.Proofs.shiftRef d ref) q rev (peak + d) = (refine c ref q rev peak).map (List.map fun p => (p.1 + d, p.2)) :=
  Coma.Proofs.refine_shift_of c ref q rev peak d (by omega) (by omega)

/-- without the hypothesis the claim is false, for a reason worth knowing: `vectorisePositions` reads a window end of
    exactly 0 as "no end given" (`end or positions[-1]`) and extends the window to the last label.  Reachable only with
    peak = |query| = margin = 0. -/
theorem C16_secondary_translation_zero_end_counterexample :
    ¬ ∀ (c : SecCfg) (ref q : OMap) (rev : Bool) (peak d : Int),
      refine c (Coma.Proofs.shiftRef d ref) q rev (peak + d) = (refine c ref q rev peak).map (List.map fun p => (p.1 + d, p.2)) :=
  Coma.Proofs.refine_shift_false

set_option linter.unusedVariables false in  -- `hid` is part of the statement; the proof does not need it
/-- … and so does the whole derivation of a seed (`deriveSeed`: reference lookup, refinement, the top-ten bookkeeping
    with its `derived / reordered / ambiguous / MISMATCH` status): the translated reference and primary peak give the
    translated seed with the same status.  With `C04_translation_invariant` the whole pipeline AFTER the selection of the
    primary peaks is translation-equivariant. -/
theorem C16_seed_translation (c : SecCfg) (r q : OMap) (s : PSeed) (d : Int) (hid : r.id = s.refId)
    (h0 : 0 < s.primary + q.length + c.margin) (hd : 0 < s.primary + d + q.length + c.margin) :
    deriveSeed c [Coma.Proofs.shiftRef d r] q (Coma.Proofs.shiftPSeed d s)
      = (deriveSeed c [r] q s).map (fun p => (Coma.Proofs.shiftSeed d p.1, p.2)) :=
  Coma.Proofs.deriveSeed_shift_refs c [r] q s d (by omega) (by omega)

end Coma.Props
