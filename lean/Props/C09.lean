/-
  Props/C09.lean — PROPERTY THEOREMS for C09 (output does not depend on the number of worker
  processes or on the run).  Statements, each proved in a few lines from the lemmas of Proofs/SrcBlind.lean
  (erasing `source` commutes with every stage) and Proofs/Execute.lean.

  Models: the per-process mutable counter `AlignerEngine.iteration` (src/alignment/aligner.py:31-34,
  64) is the explicit argument `it`; `p_tqdm.p_imap` (src/workflow_coordinator.py:29-35) is an
  order-preserving map (`List.mapM`) — that it IS order preserving, and that FFT seeding is
  bit-reproducible across processes, is runtime behaviour exercised by the harness (PARTIAL).
  Quantifier: all inputs, all seed tables, all modes, all values of the counter, all ways of
  splitting the query list among workers.
-/
import Props.Defs
import Proofs.SrcBlind
namespace Coma.Props
open Coma.Spec

/-- every line of every output file of every mode is independent of the worker-local counter -/
theorem C09_iteration_unobservable (cfg : Cfg) (mode : Mode) (refRows qryRows : List CRow)
    (refIds qryIds : List Int) (t : SeedTable) (it it' : Int) :
    runProgram cfg mode refRows qryRows refIds qryIds t it =
    runProgram cfg mode refRows qryRows refIds qryIds t it' := by
  rw [Coma.Proofs.SrcBlind.runProgram_eq, Coma.Proofs.SrcBlind.runProgram_eq]
  refine congrArg _ (funext fun m => ?_)
  exact Coma.Proofs.Exc.bind_congr_of_map (Coma.Proofs.SrcBlind.execute_E cfg mode m.1 t m.2 it it')
    (fun o o' h => by rw [← Coma.Proofs.SrcBlind.renderOut_eO, h, Coma.Proofs.SrcBlind.renderOut_eO])

/-- a candidate built under another counter value differs only in the `source` fields, and
    nothing that is written reads `source` -/
theorem C09_candidate_source_only (P : Params) (C : ChainCfg) (ref qry : OMap) (peaks : List Int) (rev : Bool) (it it' : Int) :
    (alignerAlign P C ref qry peaks rev it).map eraseSrcRow =
    (alignerAlign P C ref qry peaks rev it').map eraseSrcRow :=
  Coma.Proofs.SrcBlind.alignerAlign_E P C ref qry peaks rev it it'

theorem C09_render_source_blind (cfg : Cfg) (rows : List Row) :
    renderRows cfg (rows.map eraseSrcRow) = renderRows cfg rows :=
  Coma.Proofs.SrcBlind.renderRows_E cfg rows

/-- schedule independence of an order-preserving map: splitting the query list into chunks (one
    per worker, processed in any order, finishing in any order) and concatenating the chunk
    results in list order gives the sequential result -/
theorem C09_schedule_independent (cfg : Cfg) (refs : List OMap) (t : SeedTable) (qs1 qs2 : List OMap) (it : Int) :
    executeSingle cfg refs t (qs1 ++ qs2) it =
      (do let a ← executeSingle cfg refs t qs1 it
          let b ← executeSingle cfg refs t qs2 it
          pure (a ++ b)) :=
  Coma.Proofs.executeSingle_append cfg refs t qs1 qs2 it

/-- the run is a function of (maps, parameters, seed table): two runs with equal arguments give
    equal files (trivially, `runProgram` is a function — stated for the record) -/
theorem C09_deterministic (cfg : Cfg) (mode : Mode) (refRows qryRows : List CRow) (refIds qryIds : List Int)
    (t : SeedTable) (it : Int) (a b : Except Err (List (Nat × List String)))
    (ha : a = runProgram cfg mode refRows qryRows refIds qryIds t it)
    (hb : b = runProgram cfg mode refRows qryRows refIds qryIds t it) : a = b := by rw [ha, hb]

end Coma.Props
