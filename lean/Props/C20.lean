/-
  Props/C20.lean — PROPERTY THEOREMS for C20 (indel calls are self-consistent and clustering
  conserves every call).  Statements, each proved in a few lines from the lemmas of Proofs/Indel.lean or by
  reference to the theorem there.

  `clusterIndels` models `cluster_indels` (sv/write_indel_files.py:3-44, after the `fix:`
  commit); `mkCall` models the call constructor shared by
  sv/molecule_indels.py:131-156 (lo = 2000) and sv/segment_indels.py:173-205 (lo = 100).
  Quantifier: every list of calls (any order, any chromosomes/coordinates), every blur.
-/
import Props.Defs
import Proofs.Indel
namespace Coma.Props
open Coma.Spec

/-- the clusters are summaries of a partition of the input into consecutive groups:
    nothing is lost, invented, mixed or shrunk.  Input calls carry Count 1 (the finders never
    set another value; `cluster_indels` appends `[1]` itself).  Without that hypothesis the
    statement is false — `Call.merge` adds 1, not the merged call's count — see
    `C20_partition_needs_unit_counts`. -/
theorem C20_partition (blur : Int) (calls : List Call) (h1 : ∀ c ∈ calls, c.count = 1) :
    ∃ gs : List (List Call), gs.flatten = calls ∧
      Forall2 Summarises (clusterIndels blur calls) gs :=
  Coma.Proofs.cluster_partition blur calls h1

theorem C20_partition_needs_unit_counts :
    ¬ ∃ gs, gs.flatten = Coma.Proofs.Indel.cex ∧
      Forall2 Summarises (clusterIndels 30000 Coma.Proofs.Indel.cex) gs := by
  rintro ⟨gs, hfl, hf⟩
  have hlen : (clusterIndels 30000 Coma.Proofs.Indel.cex).map (·.count) = [2] := by decide +kernel
  have hsum := Coma.Proofs.Indel.sum_counts_of_forall2 hf
  rw [hfl, hlen] at hsum
  exact absurd hsum (by decide)

/-- Count values sum to the number of input calls -/
theorem C20_count (blur : Int) (calls : List Call) (h1 : ∀ c ∈ calls, c.count = 1) :
    ((clusterIndels blur calls).map (·.count)).sum = calls.length :=
  Coma.Proofs.cluster_count blur calls h1

/-- every input query id appears in exactly one cluster, in order -/
theorem C20_ids (blur : Int) (calls : List Call) :
    (clusterIndels blur calls).flatMap (·.qids) = calls.flatMap (·.qids) :=
  Coma.Proofs.cluster_ids blur calls

/-- the unrepaired loop lost a call at a chromosome change within the blur distance (F4) -/
theorem C20_unrepaired_counterexample :
    ((clusterIndelsBuggy 30000
        [⟨false, 1, 100, 200, [7], 1, 2, 5000, 1⟩, ⟨false, 2, 150, 250, [8], 1, 2, 5000, 1⟩]).map (·.count)).sum = 1 := by
  decide +kernel

/-- a call is self-consistent: Length = reference gap − query gap, type insertion iff negative,
    and it is reported exactly when lo < |Length| < 100000 -/
theorem C20_call (lo chrom qid rs re qs qe : Int) (hlo : 0 ≤ lo) :
    (∀ c, mkCall lo chrom qid rs re qs qe = some c →
        c.length = ((iabs' (rs - re) - iabs' (qs - qe) : Int) : Rat) ∧
        (c.isIns = true ↔ iabs' (rs - re) - iabs' (qs - qe) < 0) ∧
        c.chrom = chrom ∧ c.qids = [qid] ∧ c.rStart = rs ∧ c.rStop = re ∧ c.count = 1) ∧
    (mkCall lo chrom qid rs re qs qe = none ↔
        ¬ (lo < iabs' (iabs' (rs - re) - iabs' (qs - qe)) ∧ iabs' (iabs' (rs - re) - iabs' (qs - qe)) < 100000)) :=
  Coma.Proofs.mkCall_spec lo chrom qid rs re qs qe hlo

/-- non-vacuity -/
example : ((clusterIndels 30000
    [⟨false, 1, 100, 200, [7], 1, 2, 5000, 1⟩, ⟨false, 2, 150, 250, [8], 1, 2, 5000, 1⟩,
     ⟨false, 2, 160, 300, [9], 1, 2, 3000, 1⟩]).map (·.count)) = [1, 2] := by decide +kernel

/-- the WRITTEN FILE (`write_indel_file`: both types sorted, clustered and merged): the Count column
    sums to the number of calls found -/
theorem C20_file_count (blur : Int) (ins dels : List Call)
    (hi : ∀ c ∈ ins, c.count = 1) (hd : ∀ c ∈ dels, c.count = 1) :
    ((indelFile blur ins dels).map (·.count)).sum = ins.length + dels.length := by
  unfold indelFile
  rw [((Coma.Proofs.sortCalls_perm _).map (·.count)).sum_nat, List.map_append, List.sum_append,
    Coma.Proofs.cluster_count blur _ (fun c hc => hd c ((Coma.Proofs.sortCalls_perm dels).mem_iff.mp hc)),
    Coma.Proofs.cluster_count blur _ (fun c hc => hi c ((Coma.Proofs.sortCalls_perm ins).mem_iff.mp hc)),
    (Coma.Proofs.sortCalls_perm dels).length_eq, (Coma.Proofs.sortCalls_perm ins).length_eq]
  omega

/-- every query id of every call found (insertions and deletions) appears in exactly one line of the file -/
theorem C20_file_ids (blur : Int) (ins dels : List Call) :
    ((indelFile blur ins dels).flatMap (·.qids)).Perm ((ins ++ dels).flatMap (·.qids)) := by
  unfold indelFile
  refine ((Coma.Proofs.sortCalls_perm _).flatMap_right _).trans ?_
  rw [List.flatMap_append, Coma.Proofs.cluster_ids, Coma.Proofs.cluster_ids, List.flatMap_append]
  exact (List.perm_append_comm).trans
    (((Coma.Proofs.sortCalls_perm ins).flatMap_right _).append ((Coma.Proofs.sortCalls_perm dels).flatMap_right _))

/-- a line of the file is a cluster of one type -/
theorem C20_file_types (blur : Int) (ins dels : List Call) :
    ∀ c ∈ indelFile blur ins dels,
      c ∈ clusterIndels blur (sortCalls dels) ∨ c ∈ clusterIndels blur (sortCalls ins) := by
  intro c hc
  have := (Coma.Proofs.sortCalls_perm _).mem_iff.mp hc
  simpa [List.mem_append] using this

/-- non-vacuity: insertions only -/
example : ((indelFile 30000 [⟨true, 1, 100, 200, [7], 1, 2, -5000, 1⟩, ⟨true, 1, 150, 250, [8], 1, 2, -5000, 1⟩] []).map (·.count)) = [2] := by
  decide +kernel

/-! ### the finders' loops (label look-ups, guards, several breakage places) -/

/-- every call the segment finder reports for an alignment is the constructor applied to the coordinates of four
    labels of the two maps (hence self-consistent by `C20_call`), at most one per breakage place -/
theorem C20_segment_finder (chrom qid : Int) (rpos qpos : List Int) (pairs : List (Int × Int)) (bps : List Int) (cs : List Call)
    (h : segmentCalls chrom qid rpos qpos pairs bps = .ok cs) :
    cs.length ≤ bps.length ∧
    ∀ c ∈ cs, ∃ rs re qs qe, rs ∈ rpos ∧ re ∈ rpos ∧ qs ∈ qpos ∧ qe ∈ qpos ∧ mkCall 100 chrom qid rs re qs qe = some c :=
  Coma.Proofs.segmentCalls_spec chrom qid rpos qpos pairs bps cs h

/-- a breakage place at or past the last pair is skipped, not an error (`len(alignedPairs) > index + 1`) -/
theorem C20_segment_finder_guard (chrom qid : Int) (rpos qpos : List Int) (pairs : List (Int × Int)) (i : Int) (bps : List Int)
    (hi : ¬ (pairs.length : Int) > i + 1) :
    segmentCalls chrom qid rpos qpos pairs (i :: bps) = segmentCalls chrom qid rpos qpos pairs bps := by
  rw [segmentCalls]
  simp only [if_neg hi]
  exact bind_pure _

/-- likewise the molecule finder (threshold 2000) -/
theorem C20_molecule_finder (chrom qid : Int) (rpos qpos : List Int) (pairs : List (Int × Int)) (index : Int) (bp : Int × Int) (c : Call)
    (h : moleculeCall chrom qid rpos qpos pairs index bp = .ok (some c)) :
    ∃ rs re qs qe, rs ∈ rpos ∧ re ∈ rpos ∧ qs ∈ qpos ∧ qe ∈ qpos ∧ mkCall 2000 chrom qid rs re qs qe = some c :=
  Coma.Proofs.moleculeCall_sound chrom qid rpos qpos pairs index bp c h

/-- non-vacuity: two breakage places, one deletion of 5000 bp found, the place at the last pair skipped -/
example : ((segmentCalls 3 7 [0, 10000, 25000, 30000] [0, 10000, 20000, 25000] [(1, 1), (2, 2), (3, 3), (4, 4)] [1, 3]).toOption.map
    fun cs => cs.map fun c => (c.isIns, c.rStart, c.rStop, c.length)) = some [(false, 10000, 25000, 5000)] := by decide +kernel

end Coma.Props
