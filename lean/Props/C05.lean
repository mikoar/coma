/-
  Props/C05.lean — PROPERTY THEOREMS for C05 (at most one record per query: the best-scoring
  candidate, in query-id order).  Statements, proved by reference to the theorems of Proofs/Select.lean and
  Proofs/Modes.lean (the four clauses of `C05_filter_unique_sorted` are the `fbq_*` lemmas).

  Models: `bestRow` (src/workflow_coordinator.py:79-81), `filterBestPerQuery`
  (src/alignment/alignment_results.py:36-42), `selectPeaks` (peaks_selector.py:18-21, see C16),
  `execute` (both coordinators + Program.run: multi_pass_workflow_coordinator.py:27-59,
  program.py:42-49).  Quantifier: all row lists, all modes, all seed tables.
-/
import Props.Defs
import Proofs.Select
import Proofs.Modes
namespace Coma.Props
open Coma.Spec

/-- the first-pass record of a query is a maximum-confidence candidate, the first one among ties -/
theorem C05_best_candidate (rows : List Row) :
    (bestRow rows = none ↔ rows = []) ∧
    ∀ r, bestRow rows = some r →
      ∃ l1 l2, rows = l1 ++ r :: l2 ∧ (∀ x ∈ l1, x.confidence < r.confidence) ∧ (∀ x ∈ l2, x.confidence ≤ r.confidence) :=
  Coma.Proofs.bestRow_spec rows

/-- one row per query id, the highest-confidence one, in ascending id order; idempotent -/
theorem C05_filter_unique_sorted (rows : List Row) :
    StrictAscending ((filterBestPerQuery rows).map (·.queryId)) ∧
    (∀ r ∈ filterBestPerQuery rows, r ∈ rows) ∧
    (∀ x ∈ rows, ∃ r ∈ filterBestPerQuery rows, r.queryId = x.queryId ∧ x.confidence ≤ r.confidence) ∧
    filterBestPerQuery (filterBestPerQuery rows) = filterBestPerQuery rows :=
  ⟨Coma.Proofs.Select.fbq_strict rows, Coma.Proofs.Select.fbq_mem rows, Coma.Proofs.Select.fbq_best rows,
    Coma.Proofs.Select.fbq_fixed _ (Coma.Proofs.Select.fbq_strict rows)⟩

/-- the main file of every mode has at most one record per query, ascending; so have the
    first- and second-pass files of 'separate' and 'all' -/
theorem C05_files_unique (cfg : Cfg) (mode : Mode) (refs : List OMap) (t : SeedTable) (qs : List OMap) (it : Int)
    (out : Output) (h : execute cfg mode refs t qs it = .ok out) :
    StrictAscending (out.main.map (·.queryId)) ∧
    ((mode = .separate ∨ mode = .all) → ∀ f ∈ out.extra, StrictAscending (f.2.map (·.queryId))) :=
  Coma.Proofs.execute_files_unique cfg mode refs t qs it out h

/-- 'best' mode: a query has a record exactly when its first- or second-pass alignment exists -/
theorem C05_best_mode (cfg : Cfg) (refs : List OMap) (t : SeedTable) (qs : List OMap) (it : Int)
    (first second : List Row) (out : Output)
    (h1 : executeSingle cfg refs t qs it = .ok first) (h2 : secondPass cfg refs t qs first it = .ok second)
    (h : execute cfg .best refs t qs it = .ok out) :
    ∀ q, q ∈ out.main.map (·.queryId) ↔ q ∈ (first ++ second).map (·.queryId) :=
  Coma.Proofs.execute_best_ids cfg refs t qs it first second out h1 h2 h

/-- rows surviving the first pass always have a pair -/
theorem C05_rows_have_pairs (cfg : Cfg) (refs : List OMap) (t : SeedTable) (qs : List OMap) (it : Int)
    (rows : List Row) (h : executeSingle cfg refs t qs it = .ok rows) : ∀ r ∈ rows, r.pairs ≠ [] :=
  fun r hr => (Coma.Proofs.executeSingle_origin h r hr).1

end Coma.Props
