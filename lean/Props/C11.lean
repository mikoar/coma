/-
  Props/C11.lean — PROPERTY THEOREMS for C11 (mirroring a query mirrors its first-pass
  alignment).  Statements, each proved in a few lines from the lemmas of Proofs/Mirror*.lean and
  Proofs/SeqMirror.lean or by reference to the theorem there.

  Models: `OMap.mirror`, `OMap.labels` (src/correlation/optical_map.py:45-56), the whole candidate
  construction `alignerAlign`; the join score reads coordinates only after the `fix:` commit
  (src/alignment/segment_chainer.py:56-58, see C14_join_strand_blind).  Not modelled: that the
  seeds of a query and of its mirror image coincide (bit vectors of a commensurate lattice are
  mirror images) for the PRIMARY stage, which divides by a float array carrying FFT rounding noise —
  exercised by the harness on the real first pass.  The SECONDARY stage is in the model
  (`Coma/Peaks.lean`): `C11_correlation_input_mirror`, `C11_secondary_seeds_mirror` below.  With a
  strand-symmetric primary vector the primary cut itself is not equivariant: known finding KF-e.
  Quantifier: all maps, seed peak lists, strands and parameters, under `NoTies` (no reference
  label has two equidistant query partners within maxDistance — true on a lattice whose step
  exceeds twice maxPairDistance).
-/
import Props.Defs
import Proofs.Mirror
import Proofs.SeqMirror
namespace Coma.Props
open Coma.Spec

/-- read on the other strand, the mirror image has the same label coordinates in the same order,
    with label k renumbered to n+1−k -/
theorem C11_labels_mirror (m : OMap) (rev : Bool) (hs : m.shift = 0) :
    m.mirror.labels (!rev) =
      (m.labels rev).map (fun l => ⟨(m.positions.length : Int) + 1 - l.site, l.pos⟩) :=
  Coma.Proofs.labels_mirror m rev hs

theorem C11_mirror_involutive (m : OMap) (h : Coma.Proofs.Trimmed m) :
    Coma.Proofs.Trimmed m.mirror ∧ m.mirror.mirror = m :=
  ⟨Coma.Proofs.mirror_trimmed h, Coma.Proofs.Mirror.mirror_mirror m⟩

/-- the candidate built for the mirror image on the other strand from the same seed peaks is the
    mirror image of the candidate -/
theorem C11_equivariant (P : Params) (C : ChainCfg) (ref qry : OMap) (peaks : List Int) (rev : Bool) (it : Int)
    (ht : Coma.Proofs.Trimmed qry)
    (hnt : ∀ peak ∈ peaks, NoTies P.md peak (refWindow P.md ref peak (peak + qry.length)) (qry.labels rev)) :
    alignerAlign P C ref qry.mirror peaks (!rev) it =
      (alignerAlign P C ref qry peaks rev it).map (mirrorRow qry.positions.length) :=
  Coma.Proofs.alignerAlign_mirror P C ref qry peaks rev it ht hnt

/-- … which has the same reference labels and query coordinates, query label k ↦ n+1−k, the
    opposite orientation and the same confidence -/
theorem C11_mirror_row (n : Int) (r : Row) :
    (mirrorRow n r).confidence = r.confidence ∧ (mirrorRow n r).rev = !r.rev ∧
    (mirrorRow n r).pairs.map (fun p => (p.r, p.q.pos)) = r.pairs.map (fun p => (p.r, p.q.pos)) ∧
    (mirrorRow n r).pairs.map (fun p => p.q.site) = r.pairs.map (fun p => n + 1 - p.q.site) := by
  have hp : (mirrorRow n r).pairs = r.pairs.map (relabelPr (fun k => n + 1 - k) id) :=
    (Coma.Proofs.Mirror.relabelMap (fun k => n + 1 - k) id).flatMap_pairs r.segments
  rw [hp, List.map_map, List.map_map]
  exact ⟨rfl, rfl, rfl, rfl⟩

/-- pairing itself commutes with the renumbering -/
theorem C11_pairing_mirror (md : Int) (ref qry : OMap) (start stop : Int) (rev : Bool) (it : Int)
    (ht : Coma.Proofs.Trimmed qry) (hnt : NoTies md start (refWindow md ref start stop) (qry.labels rev)) :
    engineAlign md ref qry.mirror start stop (!rev) it =
      (engineAlign md ref qry start stop rev it).map (relabelAPos (fun k => (qry.positions.length : Int) + 1 - k) id) :=
  Coma.Proofs.engineAlign_mirror md ref qry start stop rev it ht hnt

/-- on a lattice commensurate with the resolution the bit vector of the mirror image is the reversed bit
    vector (binning is mirror-symmetric), and blurring commutes with reversal -/
theorem C11_vector_mirror (m : OMap) (res blurR : Int) (ht : Coma.Proofs.Trimmed m) (hres : 1 ≤ res)
    (hl : ∀ p ∈ m.positions, res ∣ p) :
    sequenceOf res blurR m.mirror.positions 0 none = (sequenceOf res blurR m.positions 0 none).map List.reverse :=
  Coma.Proofs.sequenceOf_mirror m res blurR ht hres hl

/-- so the array correlated for the mirror image on the other strand is the very same array -/
theorem C11_correlation_input_mirror (c : SecCfg) (q : OMap) (rev : Bool) (ht : Coma.Proofs.Trimmed q) (hres : 1 ≤ c.res)
    (hl : ∀ p ∈ q.positions, c.res ∣ p) :
    querySequence c q.mirror (!rev) = querySequence c q rev :=
  Coma.Proofs.querySequence_mirror c q rev ht hres hl

/-- and the secondary stage hands the aligner the same seeds for a molecule on one strand and for its
    mirror image on the other (every reference, every primary peak, every parameter setting) -/
theorem C11_secondary_seeds_mirror (c : SecCfg) (ref q : OMap) (rev : Bool) (peak : Int) (ht : Coma.Proofs.Trimmed q)
    (hres : 1 ≤ c.res) (hl : ∀ p ∈ q.positions, c.res ∣ p) :
    refine c ref q.mirror (!rev) peak = refine c ref q rev peak := by
  have hml : q.mirror.length = q.length := rfl
  unfold refine refineCorrelation
  rw [Coma.Proofs.querySequence_mirror c q rev ht hres hl, hml]

/-- non-vacuity: a trimmed lattice molecule, and off the lattice the vectors do differ -/
example : Coma.Proofs.Trimmed { id := 1, length := 1301, positions := [0, 200, 300, 900, 1300] } ∧
    (∀ p ∈ [0, 200, 300, 900, 1300], (100 : Int) ∣ p) := by
  refine ⟨⟨rfl, rfl, by decide, by simp [Ascending]⟩, by decide⟩
example : sequenceOf 100 0 ({ id := 1, length := 1302, positions := [0, 250, 300, 901, 1301] } : OMap).mirror.positions 0 none
    ≠ (sequenceOf 100 0 [0, 250, 300, 901, 1301] 0 none).map List.reverse := by decide +kernel

end Coma.Props
