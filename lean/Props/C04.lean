/-
  Props/C04.lean — PROPERTY THEOREMS for C04 (confidence is exactly the configured score of what
  is reported).  Statements only; proofs in Proofs/Fields.lean, Proofs/Compose.lean, Proofs/Pairing.lean,
  Proofs/Translate.lean.

  Models: `APos.score` (src/alignment/alignment_position.py:26-30, 133-136), `Seg.score`
  (segments.py:15-21, 135-141), `Row.create` confidence (alignment_results.py:83), `engineAlign`
  (aligner.py:53-64), `alignerAlign`.  Quantifier: all maps, seed peaks, strands and all values of the
  options sp, dp, su, d, ms, bs within the ranges the option help allows (`GoodParams`).
-/
import Props.Defs
import Proofs.Fields
import Proofs.Compose
import Proofs.Pairing
import Proofs.Translate
namespace Coma.Props
open Coma.Spec

/-- score of a reported pair / of an unpaired label, from the configured values -/
theorem C04_member_score (P : Params) :
    (∀ p : Pr, (APos.pair p).score P = P.sp - P.dp * (p.shift.natAbs : Int)) ∧
    (∀ r, (APos.uref r).score P = P.su) ∧ (∀ q s, (APos.uqry q s).score P = P.su) :=
  ⟨fun _ => rfl, fun _ => rfl, fun _ _ => rfl⟩

/-- a candidate's confidence is the sum over its segments of the sum over their members -/
theorem C04_confidence (P : Params) (C : ChainCfg) (ref qry : OMap) (peaks : List Int) (rev : Bool) (it : Int)
    (row : Row) (h : alignerAlign P C ref qry peaks rev it = .ok row) :
    row.confidence = sumInts (row.segments.map (fun s => sumScores P s.items)) :=
  (Coma.Proofs.alignerAlign_fields P C ref qry peaks rev it row h).2.2.2.2.2.2

/-- every segment of a candidate — also after chaining and trimming — is a contiguous run of
    the position list of ONE of the seed peaks, carrying that peak: no label inside its span is
    left unaccounted for, none is counted twice (the position list contains every label of the
    window exactly once: C12).  Holds for weakly ascending coordinates, i.e. also with coincident labels. -/
theorem C04_accounted (P : Params) (C : ChainCfg) (hP : GoodParams P) (ref qry : OMap) (peaks : List Int)
    (rev : Bool) (it : Int) (hr : Ascending ref.positions) (hq : Ascending qry.positions)
    (row : Row) (h : alignerAlign P C ref qry peaks rev it = .ok row) :
    ∀ s ∈ row.segments, s.items = [] ∨
      ∃ peak ∈ peaks, ∃ it', s.peak = peak ∧ s.items <:+: peakPositions P ref qry rev it' peak :=
  fun s hs => Or.inr (Coma.Proofs.alignerAlign_segments_infix P C hP ref qry peaks rev it hr hq row h s hs)

/-- a pair's offset is query − (reference − seed peak) and never exceeds maxPairDistance -/
theorem C04_offset (P : Params) (ref qry : OMap) (rev : Bool) (it peak : Int) (hq : Ascending qry.positions)
    (p : Pr) (hp : APos.pair p ∈ peakPositions P ref qry rev it peak) :
    p.shift = offset peak p.r p.q ∧ -P.md ≤ p.shift ∧ p.shift ≤ P.md :=
  (Coma.Proofs.engine_within hq hp).2.2

/-! ### nothing depends on the magnitude of the reference coordinates -/

/-- Moving the reference `d` bp along its chromosome (every label, its length, and the seed peaks with it) moves every
    segment of the candidate alignment by `d` and changes nothing else: the same label numbers are paired with the same
    recorded offsets, the same unpaired labels are charged, the confidence and the query span are the same — for every
    parameter set, strand, seed list and `d` (also negative).  A score, threshold or tolerance that grows with the
    coordinate (float32 coordinates, `np.isclose` with its relative default) contradicts this theorem. -/
theorem C04_translation_invariant (P : Params) (C : ChainCfg) (ref qry : OMap) (peaks : List Int) (rev : Bool) (it : Int) (d : Int) :
    (alignerAlign P C (Coma.Proofs.shiftRef d ref) qry (peaks.map (· + d)) rev it).map
        (fun r => (r.segments, r.confidence, r.qStart, r.qEnd))
      = (alignerAlign P C ref qry peaks rev it).map
        (fun r => (r.segments.map (Coma.Proofs.shiftSeg d), r.confidence, r.qStart, r.qEnd)) :=
  Coma.Proofs.alignerAlign_shift P C ref qry peaks rev it d

/-- non-vacuity / sanity: a translated segment has the same score -/
example : (Coma.Proofs.shiftSeg 240000000 ⟨5, [.pair ⟨⟨1, 5⟩, ⟨1, 0⟩, 0, 0⟩, .uref ⟨2, 900⟩]⟩).score defaultParams
    = (⟨5, [.pair ⟨⟨1, 5⟩, ⟨1, 0⟩, 0, 0⟩, .uref ⟨2, 900⟩]⟩ : Seg).score defaultParams := by decide

end Coma.Props
