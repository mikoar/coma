/-
  Props/C19.lean — PROPERTY THEOREMS for C19 (alignment comparison partitions keys; measures are
  bounded and reflexive).  Statements, proved by reference to the theorems of Proofs/Compare.lean
  (`C19_swap_row` by unfolding).

  `compareSets` models `AlignmentComparer.compare` + `AlignmentComparison.create`
  (src/diagnostic/alignment_comparer.py:44-58, 164-233).  `difflib.SequenceMatcher` enters as a
  parameter `M a b` (total size of the matching blocks; `ratio = 2·M/T`) with the three-clause
  contract `MatcherOK`, which the harness exercises against the real difflib on every run.
  Quantifier: all pairs of alignment lists (duplicate keys, empty pair lists, duplicated query
  labels), both settings of the combine flag, every matcher satisfying the contract.
-/
import Props.Defs
import Proofs.Compare
namespace Coma.Props
open Coma.Spec

/-- distinct keys of an alignment list, in dictionary order -/
def keysOf (as : List BAl) : List Key := (toDict as).map (·.1)

theorem C19_keys (as : List BAl) :
    (keysOf as).Nodup ∧ ∀ k, k ∈ keysOf as ↔ ∃ a ∈ as, a.key = k :=
  Coma.Proofs.Compare.toDict_spec as

/-- every key occurring in either set is classified exactly once; the only-counts are the set
    differences -/
theorem C19_partition (flag : Bool) (M : List BPair → List BPair → Nat) (as1 as2 : List BAl) :
    let c := compareSets flag M as1 as2
    c.overlapping + c.nonOverlapping = ((keysOf as1).filter (fun k => (keysOf as2).contains k)).length ∧
    c.firstOnly = ((keysOf as1).filter (fun k => !(keysOf as2).contains k)).length ∧
    c.secondOnly = ((keysOf as2).filter (fun k => !(keysOf as1).contains k)).length ∧
    c.overlapping + c.nonOverlapping + c.firstOnly + c.secondOnly =
      (keysOf as1).length + ((keysOf as2).filter (fun k => !(keysOf as1).contains k)).length :=
  Coma.Proofs.compare_partition flag M as1 as2

/-- identity and both coverages lie in [0,1] for every compared row -/
theorem C19_bounds (flag : Bool) (M : List BPair → List BPair → Nat) (hM : MatcherOK M) (as1 as2 : List BAl) :
    ∀ r ∈ (compareSets flag M as1 as2).rows,
      0 ≤ r.ident ∧ r.ident ≤ 1 ∧ 0 ≤ r.cov1 ∧ r.cov1 ≤ 1 ∧ 0 ≤ r.cov2 ∧ r.cov2 ≤ 1 :=
  Coma.Proofs.compare_bounds flag M hM as1 as2

/-- comparing a set with itself: every key is in both, identity 1, coverage 1, no exclusive pairs -/
theorem C19_reflexive (flag : Bool) (M : List BPair → List BPair → Nat) (hM : MatcherOK M) (as : List BAl) :
    let c := compareSets flag M as as
    c.firstOnly = 0 ∧ c.secondOnly = 0 ∧ c.nonOverlapping = 0 ∧ c.overlapping = (keysOf as).length ∧
    ∀ r ∈ c.rows, r.type = .both ∧ r.ident = 1 ∧ r.cov1 = 1 ∧ r.cov2 = 1 ∧ r.diff1 = [] ∧ r.diff2 = [] :=
  Coma.Proofs.compare_reflexive flag M hM as

/-- swapping the inputs swaps the first/second counts and keeps the both-counts -/
theorem C19_swap_counts (flag : Bool) (M : List BPair → List BPair → Nat) (hM : MatcherOK M) (as1 as2 : List BAl) :
    (compareSets flag M as1 as2).firstOnly = (compareSets flag M as2 as1).secondOnly ∧
    (compareSets flag M as1 as2).secondOnly = (compareSets flag M as2 as1).firstOnly ∧
    (compareSets flag M as1 as2).overlapping = (compareSets flag M as2 as1).overlapping ∧
    (compareSets flag M as1 as2).nonOverlapping = (compareSets flag M as2 as1).nonOverlapping :=
  Coma.Proofs.compare_swap_counts flag M hM as1 as2

/-- swapping the inputs swaps the two coverages and exclusive-pair lists of every compared row -/
theorem C19_swap_row (flag : Bool) (M : List BPair → List BPair → Nat) (a1 a2 : BAl) :
    (compareRow flag M a1 a2).cov1 = (compareRow flag M a2 a1).cov2 ∧
    (compareRow flag M a1 a2).cov2 = (compareRow flag M a2 a1).cov1 ∧
    (compareRow flag M a1 a2).diff1 = (compareRow flag M a2 a1).diff2 ∧
    (compareRow flag M a1 a2).diff2 = (compareRow flag M a2 a1).diff1 :=
  ⟨rfl, rfl, rfl, rfl⟩

/-- non-vacuity: the identity matcher-size of a longest-common-prefix matcher satisfies nothing
    special; a concrete comparison -/
example : (compareSets false (fun a b => if a = b then a.length else 0)
    [⟨1, 1, [(1, 1), (2, 2)]⟩, ⟨2, 1, [(5, 5)]⟩] [⟨1, 1, [(1, 1), (2, 2)]⟩, ⟨3, 1, []⟩]).overlapping = 1 := by
  decide +kernel

end Coma.Props
