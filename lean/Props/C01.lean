/-
  Props/C01.lean — PROPERTY THEOREMS for C01 (every reported alignment is a one-to-one, collinear
  matching of real labels).  Statements only; proofs in Proofs/Compose.lean, Proofs/Modes.lean,
  Proofs/Select.lean, Proofs/PairingOrder.lean, Proofs/ConflictAll.lean.

  FULL STATEMENT (kept visible): "every candidate alignment the aligner builds from any list of
  seed peaks lists its pairs in strictly ascending reference order with query labels strictly
  monotone, each label at most once".  It is FALSE of the unchanged code for dense ladders of seed
  peaks: `C01_candidate_counterexample_never_compared` (F5 / KF-a) and
  `C01_candidate_counterexample_interior` (F6 / KF-b).  Proved instead:
  `C01_candidate_valid_partial` (no interior index merge and every final segment keeps a pair)
  — plus everything else in the property at full strength.
-/
import Props.Defs
import Props.C15
import Proofs.Compose
import Proofs.Modes
import Proofs.Select
import Proofs.TiesRun
namespace Coma.Props
open Coma.Spec

/-- every pair of every segment of a candidate joins real labels of the named maps -/
theorem C01_labels_real (P : Params) (C : ChainCfg) (hP : GoodParams P) (ref qry : OMap) (peaks : List Int)
    (rev : Bool) (it : Int) (hr : Ascending ref.positions) (hq : Ascending qry.positions)
    (row : Row) (h : alignerAlign P C ref qry peaks rev it = .ok row) :
    ∀ p ∈ row.pairs, p.r ∈ ref.labels false ∧ p.q ∈ qry.labels rev :=
  Coma.Proofs.alignerAlign_labels_real_weak P C hP ref qry peaks rev it hr hq row h

/-- inside one segment pairs are strictly ascending on both maps — also for molecules with COINCIDENT labels (label
    coordinates only weakly ascending, as a CMAP file may have them): of two labels of one molecule at one coordinate at
    most one is ever paired (`engine_pairs_distinct_coords` in Proofs/PairingOrder.lean) -/
theorem C01_segment_valid (P : Params) (C : ChainCfg) (hP : GoodParams P) (ref qry : OMap) (peaks : List Int)
    (rev : Bool) (it : Int) (hr : Ascending ref.positions) (hq : Ascending qry.positions)
    (row : Row) (h : alignerAlign P C ref qry peaks rev it = .ok row) :
    ∀ s ∈ row.segments, PairsAscending s.items :=
  Coma.Proofs.alignerAlign_segment_valid_weak P C hP ref qry peaks rev it hr hq row h

/-- two pairs of one seed peak that use different reference labels differ in reference AND query coordinate, whatever
    labels coincide -/
theorem C01_coincident_labels_never_both_paired (md : Int) (ref qry : OMap) (start stop : Int) (rev : Bool) (it : Int)
    (hq : Ascending qry.positions) (a b : Pr)
    (ha : APos.pair a ∈ engineAlign md ref qry start stop rev it)
    (hb : APos.pair b ∈ engineAlign md ref qry start stop rev it)
    (hne : a.r.site ≠ b.r.site) : a.r.pos ≠ b.r.pos ∧ a.q.pos ≠ b.q.pos :=
  Coma.Proofs.engine_pairs_distinct_coords hq ha hb hne

/-- across segments: when no resolver step takes the interior index merge and every final
    segment keeps a pair, all pairs of the pass's result are strictly ascending on both maps, in
    listed order — hence one-to-one and collinear -/
theorem C01_candidate_valid_partial (P : Params) (c : Seg) (cs out : List Seg) (bs : List Branch)
    (h : resolveFromB P c cs = .ok (out, bs)) (hF : ∀ s ∈ c :: cs, FactoryLike s)
    (hS : ∀ a ∈ c :: cs, ∀ b ∈ c :: cs, StrictCoords a b) (hb : ∀ b ∈ bs, b ≠ Branch.interior)
    (hp : ∀ s ∈ out, s.pairs ≠ []) (ha : ∀ s ∈ out, PairsAscending s.items) :
    (out.flatMap Seg.pairs).Pairwise (fun a b => a.r.pos < b.r.pos ∧ a.q.pos < b.q.pos) :=
  List.pairwise_flatMap.2 ⟨ha, Coma.Proofs.resolveFrom_all_separated P c cs out bs h hF hS hb hp⟩

/-- in LABEL NUMBERS: a candidate whose listed pairs are strictly ascending on both maps in
    coordinates (previous theorem) is a one-to-one collinear matching of real labels — reference
    numbers strictly ascending, query numbers strictly increasing for '+' / decreasing for '-' -/
theorem C01_candidate_sites_valid_partial (P : Params) (C : ChainCfg) (hP : GoodParams P) (ref qry : OMap) (peaks : List Int)
    (rev : Bool) (it : Int) (hr : Ascending ref.positions) (hq : Ascending qry.positions)
    (row : Row) (h : alignerAlign P C ref qry peaks rev it = .ok row)
    (hasc : row.pairs.Pairwise (fun a b => a.r.pos < b.r.pos ∧ a.q.pos < b.q.pos)) :
    ValidMatching rev (sitePairs row.pairs) ∧
    (∀ p ∈ row.pairs, p.r ∈ ref.labels false ∧ p.q ∈ qry.labels rev) :=
  Coma.Proofs.candidate_sites_valid_weak P C hP ref qry peaks rev it hr hq row h hasc

/-- full strength for the common case: a candidate with at most one non-empty segment (one seed
    peak, or all but one segment dropped by the chainer) is ALWAYS a valid matching -/
theorem C01_single_segment_valid (P : Params) (C : ChainCfg) (hP : GoodParams P) (ref qry : OMap) (peaks : List Int)
    (rev : Bool) (it : Int) (hr : Ascending ref.positions) (hq : Ascending qry.positions)
    (row : Row) (h : alignerAlign P C ref qry peaks rev it = .ok row)
    (h1 : (row.segments.filter (fun s => !s.items.isEmpty)).length ≤ 1) :
    ValidMatching rev (sitePairs row.pairs) :=
  Coma.Proofs.candidate_single_segment_valid_weak P C hP ref qry peaks rev it hr hq row h h1

/-- the two refutations of the full claim are the C15 witnesses: (F6 / KF-b) the interior index
    merge leaves query label 2 in both segments … -/
theorem C01_candidate_counterexample_interior :
    ∃ l r, resolvePairB ⟨10, 2, -1, 1, 15, 5⟩
        ⟨0, [.pair ⟨⟨3, 7⟩, ⟨2, 7⟩, 0, 0⟩, .pair ⟨⟨4, 8⟩, ⟨1, 8⟩, 0, 0⟩]⟩
        ⟨9, [.pair ⟨⟨4, 8⟩, ⟨3, 0⟩, 1, 0⟩, .pair ⟨⟨5, 16⟩, ⟨2, 7⟩, 0, 0⟩]⟩ = .ok (l, r, Branch.interior) ∧
      sharesLabel l r = true :=
  C15_interior_counterexample

/-- … and (F5 / KF-a) the neighbours of an emptied chain member keep query label 3 twice -/
theorem C01_candidate_counterexample_never_compared :
    ∃ out bs, resolveFromB ⟨10, 1, -3, 2, 10, 12⟩
        ⟨2, [.pair ⟨⟨1, 0⟩, ⟨3, 0⟩, 2, 0⟩, .uqry ⟨2, 1⟩ 2, .pair ⟨⟨2, 9⟩, ⟨1, 5⟩, -2, 0⟩]⟩
        [⟨4, [.pair ⟨⟨2, 9⟩, ⟨1, 5⟩, 0, 0⟩]⟩,
         ⟨11, [.pair ⟨⟨2, 9⟩, ⟨3, 0⟩, 2, 0⟩, .uqry ⟨2, 1⟩ 11, .pair ⟨⟨3, 17⟩, ⟨1, 5⟩, -1, 0⟩]⟩] = .ok (out, bs) ∧
      (∀ b ∈ bs, b ≠ Branch.interior) ∧
      (match out with | [a, _, c] => sharesLabel a c | _ => false) = true :=
  C15_emptied_middle_counterexample

/-- a joined record is a valid matching with at least one pair (by the `fix:` check) whose pairs
    come from its two parts -/
theorem C01_join_valid (P : Params) (a b j : Row) (h : joinRows P a b = .ok (some j)) :
    j.pairs ≠ [] ∧ ValidMatching j.rev (sitePairs j.pairs) ∧ (∀ p ∈ j.pairs, p ∈ a.pairs ∨ p ∈ b.pairs) :=
  let t := Coma.Proofs.joinRows_subset P a b j h
  ⟨t.2.2.2.2.2.2.1, t.2.2.2.2.2.2.2, t.1⟩

/-- every first- and second-pass row that reaches an output file has at least one pair -/
theorem C01_written_rows_nonempty (cfg : Cfg) (refs : List OMap) (t : SeedTable) (qs : List OMap) (it : Int)
    (rows : List Row) (h : executeSingle cfg refs t qs it = .ok rows) : ∀ r ∈ rows, r.pairs ≠ [] :=
  fun r hr => (Coma.Proofs.executeSingle_origin h r hr).1

end Coma.Props
