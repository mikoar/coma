/-
  Props/C14.lean — PROPERTY THEOREMS for C14 (the chain is a best-scoring admissible
  order-respecting selection of segments).  Statements, each proved in a few lines from the lemmas of
  Proofs/Chain.lean or by reference to the theorem there.

  `dpChain score join pre` is the model of the dynamic programme + back-tracking of
  `SegmentChainer.chain` (src/alignment/segment_chainer.py:23-40), generic in the item type;
  `chainSegs` instantiates it with the real pre-order key and the real sequentiality scorer
  `joinScore` (lines 48-72; `none` = -inf).
  Quantifier: every list of items of every length, every score and join function.
-/
import Props.Defs
import Proofs.Chain
namespace Coma.Props
open Coma.Spec

/-- the chain picked by the DP, as items of the pre-ordered list -/
def chosen {α} (score : α → Rat) (join : α → α → Option Rat) (pre : List α) : List α :=
  (dpChain score join pre).1.filterMap (fun i => pre[i]?)

/-- indices are non-empty, strictly increasing and in range: every item at most once, in
    pre-order -/
theorem C14_indices {α} (score : α → Rat) (join : α → α → Option Rat) (pre : List α) (h : pre ≠ []) :
    (dpChain score join pre).1 ≠ [] ∧
    (dpChain score join pre).1.Pairwise (· < ·) ∧
    ∀ i ∈ (dpChain score join pre).1, i < pre.length :=
  Coma.Proofs.dp_indices score join pre h

theorem C14_subsequence {α} (score : α → Rat) (join : α → α → Option Rat) (pre : List α) :
    (chosen score join pre).Sublist pre :=
  Coma.Proofs.dp_sublist score join pre

/-- the reported total is the total of the chosen chain and it is finite (never -inf) -/
theorem C14_finite {α} (score : α → Rat) (join : α → α → Option Rat) (pre : List α) (h : pre ≠ []) :
    chainTotal score join (chosen score join pre) = some (dpChain score join pre).2 :=
  Coma.Proofs.dp_total score join pre h

/-- optimality over ALL non-empty order-respecting selections -/
theorem C14_optimal {α} (score : α → Rat) (join : α → α → Option Rat) (pre : List α)
    (c : List α) (hc : c.Sublist pre) (hne : c ≠ []) :
    leOpt (chainTotal score join c) (dpChain score join pre).2 :=
  Coma.Proofs.dp_optimal score join pre c hc hne

/-- consecutive chosen members never have a join of -inf -/
theorem C14_no_inf_join {α} (score : α → Rat) (join : α → α → Option Rat) (pre : List α) (h : pre ≠ []) :
    Consec (fun a b => join a b ≠ none) (chosen score join pre) :=
  Coma.Proofs.chainTotal_some_consec score join _ _ (Coma.Proofs.dp_total score join pre h)

/-- a join score is never positive (any multiplier ≥ 0, both variants) -/
theorem C14_join_nonpos (mult : Rat) (variant : Int) (prev cur : Ends) (hm : 0 ≤ mult) (v : Rat)
    (h : joinScore mult variant prev cur = some v) : v ≤ 0 := by
  rw [(Coma.Proofs.joinScore_eq_some_iff.mp h).2.2, Rat.neg_mul]
  exact Rat.neg_zero ▸ Rat.neg_le_neg (Rat.mul_nonneg hm (Coma.Proofs.calcScore_nonneg ..))

/-- a perfectly contiguous join (zero distance on both maps) scores 0 -/
theorem C14_join_zero_contiguous (mult : Rat) (variant : Int) (prev cur : Ends)
    (hr : cur.s.r.pos = prev.e.r.pos)
    (hq : cur.s.q.pos = prev.e.q.pos)
    (hl : 0 ≤ min (cur.e.r.pos - cur.s.r.pos) (prev.e.r.pos - prev.s.r.pos)) :
    joinScore mult variant prev cur = some 0 := by
  have h1 := Coma.Proofs.iabs_nonneg (cur.e.q.pos - cur.s.q.pos)
  have h2 := Coma.Proofs.iabs_nonneg (prev.e.q.pos - prev.s.q.pos)
  refine Coma.Proofs.joinScore_eq_some_iff.mpr ⟨by omega, by omega, ?_⟩
  rw [hr, hq, Int.sub_self, Int.sub_self, Coma.Proofs.calcScore_zero, Rat.mul_zero]

/-- a finite join means the overlap is at most half of the shorter segment on both maps -/
theorem C14_no_excess_overlap (mult : Rat) (variant : Int) (prev cur : Ends) (v : Rat)
    (h : joinScore mult variant prev cur = some v) :
    0 ≤ min (cur.e.r.pos - cur.s.r.pos) (prev.e.r.pos - prev.s.r.pos) + 2 * (cur.s.r.pos - prev.e.r.pos) ∧
    0 ≤ min (iabs (cur.e.q.pos - cur.s.q.pos)) (iabs (prev.e.q.pos - prev.s.q.pos)) +
        2 * (cur.s.q.pos - prev.e.q.pos) :=
  let ⟨h1, h2, _⟩ := Coma.Proofs.joinScore_eq_some_iff.mp h
  ⟨h1, h2⟩

/-- `chainSegs`: a sub-selection of the non-empty segments in stable key order, then the empty
    segments unchanged; `none` exactly when a non-empty segment has no aligned pair -/
theorem C14_chainSegs_shape (P : Params) (C : ChainCfg) (segs out : List Seg)
    (h : chainSegs P C segs = some out) :
    ∃ ne : List (Seg × Ends), withEnds? (segs.filter (fun s => !s.isEmpty)) = some ne ∧
      ∃ sel : List (Seg × Ends), sel.Sublist (isort (fun (x : Seg × Ends) => x.2.key) ne) ∧
        out = sel.map (·.1) ++ segs.filter Seg.isEmpty :=
  Coma.Proofs.chainSegs_shape P C segs out h

theorem C14_chainSegs_none_iff (P : Params) (C : ChainCfg) (segs : List Seg) :
    chainSegs P C segs = none ↔ ∃ s ∈ segs, s.isEmpty = false ∧ s.pairs = [] :=
  Coma.Proofs.chainSegs_none_iff P C segs

/-- non-vacuity: a concrete 3-item instance where the middle item is skipped -/
example : (dpChain (fun (x : Nat) => (x : Rat)) (fun a b => if a + 1 = b then none else some (-1)) [5, 6, 7]).1 = [0, 2] := by
  decide +kernel

/-- the join score is blind to the strand: it reads coordinates only, never label numbers
    (after the `fix:` commit) -/
theorem C14_join_strand_blind (mult : Rat) (variant : Int) (prev cur prev' cur' : Ends)
    (h1 : prev'.s.r.pos = prev.s.r.pos ∧ prev'.s.q.pos = prev.s.q.pos ∧ prev'.e.r.pos = prev.e.r.pos ∧ prev'.e.q.pos = prev.e.q.pos)
    (h2 : cur'.s.r.pos = cur.s.r.pos ∧ cur'.s.q.pos = cur.s.q.pos ∧ cur'.e.r.pos = cur.e.r.pos ∧ cur'.e.q.pos = cur.e.q.pos) :
    joinScore mult variant prev' cur' = joinScore mult variant prev cur := by
  obtain ⟨a1, a2, a3, a4⟩ := h1
  obtain ⟨b1, b2, b3, b4⟩ := h2
  simp only [joinScore, a1, a2, a3, a4, b1, b2, b3, b4]

/-- what the unrepaired scorer did (F9): two collinear reverse-strand segments (query labels
    numbered downwards) 10 kb apart were an "excessive overlap", their forward mirror was not -/
theorem C14_strand_signed_counterexample :
    joinScoreStrandSigned 0 0
      ⟨⟨⟨1, 0⟩, ⟨9, 0⟩, 0, 0⟩, ⟨⟨2, 5000⟩, ⟨8, 5000⟩, 0, 0⟩⟩
      ⟨⟨⟨3, 15000⟩, ⟨7, 15000⟩, 0, 0⟩, ⟨⟨4, 20000⟩, ⟨6, 20000⟩, 0, 0⟩⟩ = none ∧
    joinScoreStrandSigned 0 0
      ⟨⟨⟨1, 0⟩, ⟨1, 0⟩, 0, 0⟩, ⟨⟨2, 5000⟩, ⟨2, 5000⟩, 0, 0⟩⟩
      ⟨⟨⟨3, 15000⟩, ⟨3, 15000⟩, 0, 0⟩, ⟨⟨4, 20000⟩, ⟨4, 20000⟩, 0, 0⟩⟩ = some 0 := by
  decide +kernel

/-- C14 for the REAL chainer (`chainSegs` = the DP instantiated with the segment score and the
    real sequentiality scorer): the non-empty part of the result is an order-respecting selection
    of the key-ordered non-empty input segments whose total (segment scores + join scores) is
    finite and at least the total of EVERY non-empty order-respecting selection -/
theorem C14_chainSegs_optimal (P : Params) (C : ChainCfg) (segs out : List Seg) (ne : List (Seg × Ends))
    (h : chainSegs P C segs = some out)
    (hne : withEnds? (segs.filter (fun s => !s.isEmpty)) = some ne) (hnn : ne ≠ []) :
    ∃ sel : List (Seg × Ends), sel.Sublist (isort (fun (x : Seg × Ends) => x.2.key) ne) ∧ sel ≠ [] ∧
      out = sel.map (·.1) ++ segs.filter Seg.isEmpty ∧
      ∃ tot : Rat, Coma.Proofs.segChainTotal P C sel = some tot ∧
        ∀ c : List (Seg × Ends), c.Sublist (isort (fun (x : Seg × Ends) => x.2.key) ne) → c ≠ [] →
          leOpt (Coma.Proofs.segChainTotal P C c) tot :=
  Coma.Proofs.chainSegs_optimal P C segs out ne h hne hnn

end Coma.Props
