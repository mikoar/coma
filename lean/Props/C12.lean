/-
  Props/C12.lean — PROPERTY THEOREMS for C12 (pairing along a seed diagonal partitions labels
  and pairs nearest neighbours).  Statements, each proved in a few lines from the lemmas of
  Proofs/Pairing.lean or by reference to the theorem there or in Proofs/PairingOrder.lean.

  `engineAlign md ref qry start stop rev it` is the model of `AlignerEngine.align`
  (src/alignment/aligner.py:36-78 with AlignedPair.deduplicate, alignment_position.py:113-123).
  Quantifier: all maps with ascending label coordinates (coincident labels allowed), all seed
  offsets, both strands, fragments with label-number offsets, every maxDistance ≥ 0.
-/
import Props.Defs
import Proofs.Pairing
import Proofs.PairingOrder
import Proofs.SrcBlind
namespace Coma.Props
open Coma.Spec

/-- output is in ascending position order -/
theorem C12_sorted (md : Int) (ref qry : OMap) (start stop : Int) (rev : Bool) (it : Int) :
    Ascending ((engineAlign md ref qry start stop rev it).map APos.abs) :=
  Coma.Proofs.engine_sorted md ref qry start stop rev it

/-- every reference label of the search window is returned exactly once (paired or unpaired) -/
theorem C12_partition_ref (md : Int) (ref qry : OMap) (start stop : Int) (rev : Bool) (it : Int) :
    ((engineAlign md ref qry start stop rev it).filterMap refLabel?).Perm (refWindow md ref start stop) :=
  Coma.Proofs.engine_partition_ref md ref qry start stop rev it

/-- every query label is returned exactly once (paired or unpaired) -/
theorem C12_partition_qry (md : Int) (ref qry : OMap) (start stop : Int) (rev : Bool) (it : Int) :
    ((engineAlign md ref qry start stop rev it).filterMap qryLabel?).Perm (qry.labels rev) :=
  Coma.Proofs.engine_partition_qry md ref qry start stop rev it

/-- the search window is exactly the labels within maxDistance of [start, stop] -/
theorem C12_window (md : Int) (ref : OMap) (start stop : Int) (hr : Ascending ref.positions) (l : Lbl) :
    l ∈ refWindow md ref start stop ↔ (l ∈ ref.labels false ∧ start - md ≤ l.pos ∧ l.pos ≤ stop + md) :=
  Coma.Proofs.mem_window (Coma.Proofs.labels_pos_asc ref false hr)

/-- every pair joins real labels, carries offset = query position − (reference position − seed),
    and lies within maxDistance of the diagonal (inclusive) -/
theorem C12_within (md : Int) (ref qry : OMap) (start stop : Int) (rev : Bool) (it : Int)
    (hq : Ascending qry.positions) (p : Pr)
    (hp : APos.pair p ∈ engineAlign md ref qry start stop rev it) :
    p.r ∈ refWindow md ref start stop ∧ p.q ∈ qry.labels rev ∧
    p.shift = offset start p.r p.q ∧ -md ≤ p.shift ∧ p.shift ≤ md :=
  Coma.Proofs.engine_within hq hp

/-- unpaired query positions remember the seed -/
theorem C12_unpaired_seed (md : Int) (ref qry : OMap) (start stop : Int) (rev : Bool) (it : Int)
    (q : Lbl) (s : Int) (h : APos.uqry q s ∈ engineAlign md ref qry start stop rev it) : s = start := by
  rw [Coma.Proofs.engineAlign_on, (Coma.Proofs.engineOn_perm md start it _ _).mem_iff] at h
  simp only [unpaired, List.mem_append, List.mem_map] at h
  rcases h with ⟨p, _, hp⟩ | ⟨r, _, hr⟩ | ⟨q', _, hq'⟩
  · cases hp
  · cases hr
  · cases hq'; rfl

/-- pairs are one-to-one -/
theorem C12_one_to_one (md : Int) (ref qry : OMap) (start stop : Int) (rev : Bool) (it : Int) :
    ((pairsOf (engineAlign md ref qry start stop rev it)).map (fun p => p.r.site)).Nodup ∧
    ((pairsOf (engineAlign md ref qry start stop rev it)).map (fun p => p.q.site)).Nodup :=
  Coma.Proofs.engine_one_to_one md ref qry start stop rev it

/-- the `iteration` counter of the engine is unobservable once `source` is erased -/
theorem C12_iteration_irrelevant (md : Int) (ref qry : OMap) (start stop : Int) (rev : Bool) (it it' : Int) :
    (engineAlign md ref qry start stop rev it).map APos.eraseSrc =
    (engineAlign md ref qry start stop rev it').map APos.eraseSrc :=
  by rw [Coma.Proofs.eraseSrc_eq, Coma.Proofs.engineAlign_src, Coma.Proofs.engineAlign_src]

/-- pairs are order-preserving: they never cross -/
theorem C12_order_preserving (md : Int) (ref qry : OMap) (start stop : Int) (rev : Bool) (it : Int)
    (hr : Ascending ref.positions) (hq : Ascending qry.positions) (p1 p2 : Pr)
    (h1 : APos.pair p1 ∈ engineAlign md ref qry start stop rev it)
    (h2 : APos.pair p2 ∈ engineAlign md ref qry start stop rev it)
    (hlt : p1.r.pos < p2.r.pos) : p1.q.pos ≤ p2.q.pos :=
  Coma.Proofs.PO.engine_order_preserving hr hq h1 h2 hlt

set_option linter.unusedVariables false in  -- `hr` is part of the statement; the proof does not need it
/-- reference and query labels that are strictly each other's nearest partner within
    maxDistance are paired -/
theorem C12_mutual_nearest (md : Int) (ref qry : OMap) (start stop : Int) (rev : Bool) (it : Int)
    (hr : Ascending ref.positions) (hq : Ascending qry.positions) (r q : Lbl)
    (hrw : r ∈ refWindow md ref start stop) (hql : q ∈ qry.labels rev)
    (hd : (offset start r q).natAbs ≤ md)
    (hnr : ∀ r' ∈ refWindow md ref start stop, r' ≠ r → (offset start r q).natAbs < (offset start r' q).natAbs)
    (hnq : ∀ q' ∈ qry.labels rev, q' ≠ q → (offset start r q).natAbs < (offset start r q').natAbs) :
    ∃ p, APos.pair p ∈ engineAlign md ref qry start stop rev it ∧ p.r = r ∧ p.q = q :=
  Coma.Proofs.PO.engine_mutual_nearest md ref qry start stop rev it hq r q hrw hql hd hnr hnq

/-- non-vacuity / inclusiveness: a label exactly at maxDistance is paired (|offset| = md = 2) -/
example : engineAlign 2 ⟨1, 20, [5, 12], 0⟩ ⟨2, 8, [0, 7], 0⟩ 3 11 false 1 =
    [.pair ⟨⟨1, 5⟩, ⟨1, 0⟩, -2, 1⟩, .pair ⟨⟨2, 12⟩, ⟨2, 7⟩, -2, 1⟩] := by decide +kernel

end Coma.Props
