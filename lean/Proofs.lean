import Proofs.ExceptLemmas
import Proofs.Execute
import Proofs.SegFactory
import Proofs.Chain
import Proofs.Pairing
import Proofs.PairingOrder
import Proofs.Cigar
import Proofs.Vector
import Proofs.Indel
import Proofs.Compare
import Proofs.Conflict
import Proofs.ConflictAll
import Proofs.Xmap
import Proofs.Cmap
import Proofs.Select
import Proofs.Modes
import Proofs.Compose
import Proofs.Labels
import Proofs.Fields
import Proofs.Mirror
import Proofs.SrcBlind
import Proofs.Exact
import Proofs.Corr
import Proofs.Total
import Proofs.Restrict
import Proofs.SeqMirror
import Proofs.SeedTable
import Proofs.Peaks
import Proofs.CopySeed
import Proofs.SeededRun
import Proofs.Translate
import Proofs.TranslateSec
import Proofs.FirstRun
import Proofs.TiesRun
