/-
  Coma/Peaks.lean — MODEL (import-free).

  The SECONDARY seeding stage, exactly:

    src/correlation/sequence_generator.py:12-14      positionsToSequence = blur ∘ vectorise
    src/correlation/optical_map.py:84-86             getSequence (reverse strand = reversed vector)
    src/correlation/optical_map.py:197-217, 219-221  InitialAlignment.refine
    src/correlation/optical_map.py:141-155           createPeaks (Coma/Corr.lean)

  `refine` correlates two INTEGER arrays; scipy's `correlate(method='fft')` rounds an
  integer-typed result, so the correlation is an exact integer array and everything downstream of
  it (`find_peaks` with a height and a prominence condition, top-10, bin → bp) is exact integer /
  rational arithmetic.  The two scipy calls are library code, not repository code: they enter as an
  EXECUTABLE CONTRACT (`correlate`, `findPeaksSecondary` below), which the correspondence check
  runs against the real scipy on every invocation (ops XCORR, FINDPEAKS) — the repository's own
  glue around them (window arithmetic, arguments, strand handling, conversion) is mirrored.

  The PRIMARY stage (`getInitialAlignment`) divides by a float array that carries FFT rounding
  noise, so exact ties are broken by noise there; it stays a parameter of the model (the selected
  primary peaks: reference, strand, position).
-/
import Coma.Corr
namespace Coma

/-! ### scipy.signal.find_peaks — the part `refine` uses -/

/-- one pass of `_local_maxima_1d`: `cand = some l` while the samples from index `l` on all equal
    `prev` and the sample before `l` is smaller (a rise was seen); a fall closes the plateau. A
    plateau touching either end of the array is not a peak. -/
def plateausGo : (i : Nat) → (prev : Int) → (cand : Option Nat) → List Int → List (Nat × Nat)
  | _, _,    _,    []      => []
  | i, prev, cand, x :: xs =>
    if prev < x then plateausGo (i + 1) x (some i) xs
    else if x = prev then plateausGo (i + 1) x cand xs
    else match cand with
      | some l => (l, i - 1) :: plateausGo (i + 1) x none xs
      | none   => plateausGo (i + 1) x none xs

/-- (left edge, right edge) of every local-maximum plateau, ascending -/
def plateaus : List Int → List (Nat × Nat)
  | []      => []
  | x :: xs => plateausGo 1 x none xs

/-- `_local_maxima_1d(x)[0]`: the midpoints `(left + right) // 2` -/
def localMaxima (x : List Int) : List Nat := (plateaus x).map fun p => (p.1 + p.2) / 2

/-- walk away from a peak of height `v` while the samples are `≤ v`, keeping the minimum
    (`_peak_prominences`, one side, `wlen = None`) -/
def runMin (v : Int) : (cur : Int) → List Int → Int
  | cur, []      => cur
  | cur, y :: ys => if y ≤ v then runMin v (min cur y) ys else cur

/-- `peak_prominences(x, [p])[0]`: height above the higher of the two base minima -/
def prominence (x : List Int) (p : Nat) : Int :=
  match x[p]? with
  | none   => 0          -- never requested: `localMaxima` only returns valid indices (`Proofs/Peaks_Find`)
  | some v => v - max (runMin v v (x.take p).reverse) (runMin v v (x.drop (p + 1)))

/-- `max(initial=0)` -/
def maxInit0 : List Int → Int
  | []      => 0
  | x :: xs => max x (maxInit0 xs)

/-- `find_peaks(x, height=thr, width=(None, None), prominence=0.05 * x.max(initial=0))`
    (optical_map.py:206-211) → (index, height).  `0.05·m ≤ prom` is decided as `m ≤ 20·prom`; the
    float product agrees with that on every integer `m ≤ 200 000` (checked by the harness on every
    run: `contract_prominence_threshold`).  The width condition `(None, None)` keeps everything. -/
def findPeaksSecondary (thr : Rat) (x : List Int) : List (Nat × Int) :=
  let m := maxInit0 x
  (localMaxima x).filterMap fun p =>
    match (x[p]? : Option Int) with
    | none   => none
    | some h => if thr ≤ ((h : Int) : Rat) ∧ m ≤ 20 * prominence x p then some (p, h) else none

/-! ### the repository's glue -/

/-- `SequenceGenerator.positionsToSequence` (sequence_generator.py:12-14) -/
def sequenceOf (res blurR : Int) (positions : List Int) (start : Int) (stop? : Option Int) :
    Except Err (List Nat) := do
  let v ← vectorise positions res start stop?
  blur v blurR

/-- `scipy.signal.correlate(a, b, mode='valid', method='fft')` on integer arrays: exact; raises
    IndexError on an empty operand; when `b` is the longer one scipy swaps the operands and
    reverses the result -/
def correlate (a b : List Nat) : Except Err (List Nat) :=
  if a.isEmpty || b.isEmpty then .error .indexError
  else if b.length ≤ a.length then .ok (corrValid a b)
  else .ok (corrValid b a).reverse

structure SecCfg where
  res    : Int := 100        -- `-r2`
  blur   : Int := 4          -- `-b2`
  margin : Int := 16000      -- `-ma`
  thr    : Rat := 27         -- `-pt`
  keep   : Int := 10         -- the literal 10 in `refine`
deriving Repr, Inhabited

/-- `OpticalMap.getSequence(generator, reverseStrand)` with the default window (optical_map.py:84-86) -/
def querySequence (c : SecCfg) (q : OMap) (rev : Bool) : Except Err (List Nat) := do
  let s ← sequenceOf c.res c.blur q.positions 0 none
  return if rev then s.reverse else s

/-- the secondary correlation of `refine` (optical_map.py:199-205) and the window start -/
def refineCorrelation (c : SecCfg) (ref q : OMap) (rev : Bool) (peak : Int) : Except Err (List Nat) := do
  let qs ← querySequence c q rev
  let rs ← sequenceOf c.res c.blur ref.positions (peak - c.margin) (some (peak + q.length + c.margin))
  correlate rs qs

/-- `InitialAlignment.refine(peakPosition, generator, margin, threshold).peaks` as
    (position in bp, height); in ascending position when at most `keep` peaks pass, otherwise the
    `keep` highest (the real order is then numpy's unspecified `argpartition` order) -/
def refine (c : SecCfg) (ref q : OMap) (rev : Bool) (peak : Int) : Except Err (List (Int × Int)) := do
  let corr ← refineCorrelation c ref q rev peak
  let pk := findPeaksSecondary c.thr (corr.map Int.ofNat)
  return createPeaks c.keep c.res (peak - c.margin) (pk.map fun p => ((p.1 : Int), p.2))

/-- number of peaks that pass `find_peaks` in `refine` (before the top-`keep` cut) -/
def refineCount (c : SecCfg) (ref q : OMap) (rev : Bool) (peak : Int) : Except Err Nat := do
  let corr ← refineCorrelation c ref q rev peak
  return (findPeaksSecondary c.thr (corr.map Int.ofNat)).length

end Coma
